/-
  C-style counted loops `for (long i = lo; cond(i); ++i) body` as fuelled structural recursion,
  together with the invariant rule used by all models.  Core Lean only.
-/
namespace Pomerol.Model

/-- `for (i = start; cond i; ++i) s := body i s`, with explicit fuel.  Running out of fuel while
the condition still holds is the error `oof` (every use comes with a proof that it does not
happen). -/
def forLoop {σ ε : Type} (oof : ε) (cond : Int → Bool) (body : Int → σ → Except ε σ) :
    Nat → Int → σ → Except ε σ
  | 0, i, s => if cond i then .error oof else .ok s
  | fuel + 1, i, s =>
    if cond i then
      match body i s with
      | .ok s' => forLoop oof cond body fuel (i + 1) s'
      | .error e => .error e
    else .ok s

/-- Invariant rule: if the condition is `i < hi` on `[lo, ∞)`, the body preserves `Inv` and does not
fail on `[lo, hi)`, `lo ≤ hi` and the fuel covers `hi - lo`, then the loop terminates normally in a
state satisfying `Inv hi`. -/
theorem forLoop_spec {σ ε : Type} (oof : ε) (cond : Int → Bool) (body : Int → σ → Except ε σ)
    (Inv : Int → σ → Prop) (hi : Int)
    (hbody : ∀ i s, i < hi → Inv i s → ∃ s', body i s = .ok s' ∧ Inv (i + 1) s') :
    ∀ (fuel : Nat) (lo : Int) (s : σ), (∀ i, lo ≤ i → (cond i = true ↔ i < hi)) →
      hi - lo ≤ fuel → lo ≤ hi → Inv lo s →
      ∃ s', forLoop oof cond body fuel lo s = .ok s' ∧ Inv hi s' := by
  intro fuel
  induction fuel with
  | zero =>
    intro lo s hc hf hle hinv
    obtain rfl : lo = hi := Int.le_antisymm hle (Int.le_of_sub_nonpos hf)
    have hn : ¬ cond lo = true := fun h => Int.lt_irrefl lo ((hc lo (Int.le_refl _)).mp h)
    exact ⟨s, by rw [forLoop, if_neg hn], hinv⟩
  | succ n ih =>
    intro lo s hc hf hle hinv
    by_cases hlt : lo < hi
    · obtain ⟨s1, hb, hinv1⟩ := hbody lo s hlt hinv
      -- `a < b` on `Int` is `a + 1 ≤ b` by definition: `hlt` is the new `lo + 1 ≤ hi`, `hi'` reads `lo < i`
      obtain ⟨s2, hrun, hinv2⟩ := ih (lo + 1) s1 (fun i hi' => hc i (Int.le_of_lt hi')) (by omega) hlt
        hinv1
      exact ⟨s2, by rw [forLoop, if_pos ((hc lo (Int.le_refl _)).mpr hlt), hb]; exact hrun, hinv2⟩
    · obtain rfl : lo = hi := Int.le_antisymm hle (Int.not_lt.mp hlt)
      have hn : ¬ cond lo = true := fun h => hlt ((hc lo (Int.le_refl _)).mp h)
      exact ⟨s, by rw [forLoop, if_neg hn], hinv⟩

end Pomerol.Model
