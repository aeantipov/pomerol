/-
  Model of the job dispatcher in its *dedicated master* use
  (src/mpi_dispatcher/mpi_dispatcher.cpp; the usage pattern of test/mpi_dispatcher_test_nomaster.cpp):

      rank 0:   MPIMaster master(comm, jobs, /*include_boss=*/false);
                for (; !master.is_finished();) { master.order(); master.check_workers(); }
      rank r>0: MPIWorker worker(comm, 0);
                for (; !worker.is_finished();) { worker.receive_order();
                    if (worker.is_working()) { run(worker.current_job()); worker.report_job_done(); } }

  The master does not work; its worker pool is the ranks `1 .. P-1`.  Workers are numbered here by
  their pool index `i = rank - 1` (`worker_pool[i] = i + 1`, a bijection), `N = P - 1 ≥ 1` of them.
  As in `Model/Dispatcher.lean` a step is `(rank, sees)`: the rank performs its next
  `request::test()` with that outcome and runs deterministically up to its following `test()`.

  Two of the three conditions that steer the master -- the loop condition `is_finished()` and the
  condition of the Finish phase in `check_workers()` -- are NOT written here: they are taken from
  `Generated/Disp.lean`, which the translator regenerates from the source on every run.  The third,
  the loop condition of `order()`, is the pattern match of the hand-written `Disp.orderLoop`; the
  generated `orderCondition` is only compared with it, as a literal, in
  `orderCondition_matches_orderLoop`.

  Core Lean only.
-/
import PomerolModel.Model.Dispatcher
import PomerolModel.Generated.Disp

namespace Pomerol.Model.DispD
open Pomerol.Model.Disp (Msg WStatus Worker orderLoop)

structure MasterD where
  /-- `JobStack`, top first -/
  jobs : List Nat
  /-- `WorkerStack` (pool indices), top first -/
  idle : List Nat
  /-- `wait_statuses[i]` is an active request -/
  wait : List Bool
  /-- `workers_finish` -/
  fin : List Bool
  /-- `DispatchMap` as an association list (job, pool index), most recent assignment first -/
  dmap : List (Nat × Nat)
  /-- the master's next test is `wait_statuses[next].test()` -/
  next : Nat := 0
  /-- the master has left its loop -/
  exited : Bool := false
  deriving DecidableEq, Repr, Inhabited

structure SysD where
  /-- number of workers (`Nprocs`) -/
  N : Nat
  m : MasterD
  ws : List Worker
  /-- master → worker FIFO channels -/
  down : List (List Msg)
  /-- worker → master completion tokens in flight -/
  up : List Nat
  /-- ghost: executed (job, pool index), oldest first -/
  log : List (Nat × Nat)
  deriving DecidableEq, Repr, Inhabited

/-- number of `workers_finish` flags that are set (`std::accumulate` over the vector) -/
def nFinished (s : SysD) : Nat := s.m.fin.count true

/-- `MPIMaster::is_finished()` as the source has it (generated). -/
def isFinished (s : SysD) : Bool :=
  Pomerol.Gen.Disp.masterIsFinished (nFinished s) s.N s.m.idle.length s.m.jobs.isEmpty s.m.idle.isEmpty

/-- condition of the Finish phase of `check_workers()` as the source has it (generated). -/
def finishCond (s : SysD) : Bool :=
  Pomerol.Gen.Disp.finishCondition (nFinished s) s.N s.m.idle.length s.m.jobs.isEmpty s.m.idle.isEmpty

/-- The loop of `MPIMaster::order()` is modelled by `Disp.orderLoop` (continue while both stacks are
non-empty); this is what the source says: -/
theorem orderCondition_matches_orderLoop (a b c : Int) (jobsEmpty idleEmpty : Bool) :
    Pomerol.Gen.Disp.orderCondition a b c jobsEmpty idleEmpty = (!idleEmpty && !jobsEmpty) := rfl

/-- The condition of the Finish phase of `Model/Dispatcher.lean` (`Disp.finishPhase`), written out as a literal, is
the one the source has. -/
theorem finishCondition_matches_finishPhase (a b c : Int) (jobsEmpty idleEmpty : Bool) :
    Pomerol.Gen.Disp.finishCondition a b c jobsEmpty idleEmpty = (jobsEmpty && decide (c ≥ b)) := rfl

def init0 (N : Nat) (jobOrder : List Nat) : SysD :=
  { N := N,
    m := { jobs := jobOrder, idle := List.range N, wait := List.replicate N false,
           fin := List.replicate N false, dmap := [] },
    ws := List.replicate N {},
    down := List.replicate N [],
    up := List.replicate N 0,
    log := [] }

def order (s : SysD) : SysD :=
  let (jobs, idle, wait, dmap, down) := orderLoop s.m.jobs s.m.idle s.m.wait s.m.dmap s.down
  { s with m := { s.m with jobs := jobs, idle := idle, wait := wait, dmap := dmap }, down := down }

/-- The part of `check_workers` after the polling loop. -/
def finishPhase (s : SysD) : SysD :=
  if finishCond s then
    let down := (List.range s.N).foldl
      (fun d i => if s.m.fin.getD i false then d else d.set i ((d.getD i []) ++ [Msg.finish])) s.down
    { s with m := { s.m with fin := List.replicate s.N true }, down := down }
  else s

/-- Evaluation of the master's loop condition followed, when the loop goes on, by `order()`. -/
def loopHead (s : SysD) : SysD :=
  if isFinished s then { s with m := { s.m with exited := true, next := 0 } }
  else order { s with m := { s.m with next := 0 } }

/-- Initial state: the master evaluates its loop condition for the first time and (normally) hands
out the first batch of jobs before its first `test()`. -/
def init (N : Nat) (jobOrder : List Nat) : SysD := loopHead (init0 N jobOrder)

/-- `MPIWorker::receive_order`, the job and `report_job_done` of worker `i`; the loop condition is
re-evaluated right away, so a worker that has received `Finish` has left its loop. -/
def workerTest (s : SysD) (i : Nat) (sees : Bool) : Option SysD :=
  match s.ws[i]? with
  | none => none
  | some w =>
    if w.exited || w.st ≠ .pending then none else
    let res : Option (Worker × List (List Msg)) :=
      if sees then
        match s.down.getD i [] with
        | [] => none
        | Msg.work j :: rest => some ({ w with st := .work, cur := some j }, s.down.set i rest)
        | Msg.finish :: rest => some ({ w with st := .finish }, s.down.set i rest)
      else some (w, s.down)
    match res with
    | none => none
    | some (w1, down1) =>
      let (w2, up2, log2) :=
        if w1.st = .work then
          ({ w1 with st := WStatus.pending }, s.up.set i (s.up.getD i 0 + 1), s.log ++ [(w1.cur.getD 0, i)])
        else (w1, s.up, s.log)
      let w3 := if w2.st = .finish then { w2 with exited := true } else w2
      some { s with ws := s.ws.set i w3, down := down1, up := up2, log := log2 }

/-- One `wait_statuses[k].test()` of `check_workers` and, after the last one, the Finish phase, the
loop condition and the `order()` of the next iteration. -/
def masterTest (s : SysD) (sees : Bool) : Option SysD :=
  if s.m.exited then none else
  let k := s.m.next
  let s1 : Option SysD :=
    if sees then
      if s.m.wait.getD k false && decide (s.up.getD k 0 > 0) then
        some { s with m := { s.m with wait := s.m.wait.set k false, idle := k :: s.m.idle },
                      up := s.up.set k (s.up.getD k 0 - 1) }
      else none
    else some s
  match s1 with
  | none => none
  | some s1 =>
    if k + 1 < s.N then some { s1 with m := { s1.m with next := k + 1 } }
    else some (loopHead (finishPhase s1))

/-- A step `(rank, sees)`: rank 0 is the master, rank `r > 0` the worker with pool index `r - 1`. -/
def step (s : SysD) (r : Nat) (sees : Bool) : Option SysD :=
  if r = 0 then masterTest s sees else workerTest s (r - 1) sees

def run : SysD → List (Nat × Bool) → Option SysD
  | s, [] => some s
  | s, (r, b) :: rest => match step s r b with
    | none => none
    | some s' => run s' rest

def allExited (s : SysD) : Bool := s.m.exited && s.ws.all (·.exited)

end Pomerol.Model.DispD
