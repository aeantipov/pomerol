/-
  Property C14, term container of the susceptibility (`SusceptibilityPart::Terms`, a `TermList`).

  `Gen.Susc.termLess` / `Gen.Susc.termNegligible` are EXTRACTED from `SusceptibilityPart.h`
  (`Term::Compare`, `Term::IsNegligible`); `Gen.Susc.termFreq` from `SusceptibilityPart.cpp`
  (`-Residue/(Frequency - Pole)`).  For every sequence of terms handed to `add_term`:
    * residues are conserved (kept + dropped = added) and a term is dropped only when
      `|Residue| < Tolerance / n` fired for some container size `n ≥ 1`;
    * merging terms whose poles differ by less than the comparison tolerance onto the pole stored first
      changes the evaluated sum by at most `tol/δ² · Σ|Residue|` at every `z` at distance `≥ δ` from the
      real axis, in particular by at most `tol/Ω² · Σ|Residue|` at a bosonic Matsubara frequency
      `Ω ≠ 0`.  (The static term `Ω = 0` is not evaluated from this container but from `ZeroPoleWeight`;
      what the residue FILTER in front of the container loses there is finding F14, `Properties/C14.lean`.)
  The statements are the single-particle ones of `Properties/C01.lean`, `Properties/C01Merge.lean`
  transported along `susc_compare_is_gf_compare`, which holds by `rfl` as long as both headers keep the
  comparison `t2.Pole - t1.Pole >= Tolerance`.
-/
import PomerolModel.Properties.C01Merge
import PomerolModel.Generated.SuscFormulas

namespace Pomerol.Properties.C14Merge
open Complex Pomerol Pomerol.Spec Pomerol.Model.TermList Pomerol.Properties.C01

/-- the two extracted comparisons are the same function -/
theorem susc_compare_is_gf_compare (p q tol : ℝ) :
    Gen.Susc.termLess p q tol = Gen.GF.termLess p q tol := rfl

/-- the two extracted negligibility tests are the same function -/
theorem susc_negligible_is_gf_negligible (r : ℂ) (tol d : ℝ) :
    Gen.Susc.termNegligible r tol d = Gen.GF.termNegligible r tol d := rfl

theorem susc_term_value (r : ℂ) (p : ℝ) (z : ℂ) : Gen.Susc.termFreq r p z = -(r / (z - (p : ℂ))) := by
  simp [Gen.Susc.termFreq, neg_div]

/-- residues are conserved, only negligible terms are dropped (extracted predicates of the susceptibility) -/
theorem susc_dropped_terms_budget (tol ntol : ℝ) (htol : 0 < tol) (ts : List (Term ℂ ℝ)) :
    let less : ℝ → ℝ → Bool := fun p q => Gen.Susc.termLess p q tol
    let negl : ℂ → ℕ → Bool := fun r n => Gen.Susc.termNegligible r ntol (n : ℝ)
    ((kept less negl ts).map (·.res)).sum + ((dropped less negl ts).map (·.res)).sum
      = (ts.map (·.res)).sum ∧
    ∀ x ∈ dropped less negl ts, ∃ n : ℕ, 0 < n ∧ ‖x.res‖ < ntol / (n : ℝ) :=
  dropped_terms_budget_extracted tol ntol htol ts

/-- tolerance-aware value bound at a general complex frequency -/
theorem susc_merged_value_error (tol : ℝ) (htol : 0 < tol) (negl : ℂ → ℕ → Bool)
    (ts : List (Term ℂ ℝ)) (z : ℂ) (δ : ℝ) (hδ : 0 < δ) (hz : ∀ p : ℝ, δ ≤ ‖z - (p : ℂ)‖) :
    let less : ℝ → ℝ → Bool := fun p q => Gen.Susc.termLess p q tol
    ‖((kept less negl ts).map fun t => Gen.Susc.termFreq t.res t.pole z).sum
      + ((dropped less negl ts).map fun t => Gen.Susc.termFreq t.res t.pole z).sum
      - (ts.map fun t => Gen.Susc.termFreq t.res t.pole z).sum‖
      ≤ tol / δ ^ 2 * (ts.map fun t => ‖t.res‖).sum := by
  intro less
  have h := C01Merge.merged_value_error tol htol negl ts z δ hδ hz
  have hneg : ∀ l : List (Term ℂ ℝ), (l.map fun t => Gen.Susc.termFreq t.res t.pole z).sum
      = -(l.map fun t => t.res / (z - (t.pole : ℂ))).sum := by
    intro l
    rw [List.sum_neg, List.map_map]
    exact congrArg List.sum (List.map_congr_left fun t _ => susc_term_value t.res t.pole z)
  rw [hneg, hneg, hneg, ← neg_add, ← neg_sub', norm_neg]
  exact h

/-- ... at a bosonic Matsubara frequency `z = iΩ`, `Ω ≠ 0`. -/
theorem susc_merged_value_error_matsubara (tol : ℝ) (htol : 0 < tol) (negl : ℂ → ℕ → Bool)
    (ts : List (Term ℂ ℝ)) (Ω : ℝ) (hΩ : Ω ≠ 0) :
    let less : ℝ → ℝ → Bool := fun p q => Gen.Susc.termLess p q tol
    ‖((kept less negl ts).map fun t => Gen.Susc.termFreq t.res t.pole (Complex.I * Ω)).sum
      + ((dropped less negl ts).map fun t => Gen.Susc.termFreq t.res t.pole (Complex.I * Ω)).sum
      - (ts.map fun t => Gen.Susc.termFreq t.res t.pole (Complex.I * Ω)).sum‖
      ≤ tol / Ω ^ 2 * (ts.map fun t => ‖t.res‖).sum := by
  intro less
  have h := susc_merged_value_error tol htol negl ts (Complex.I * Ω) |Ω| (abs_pos.mpr hΩ)
    (abs_le_norm_I_mul_sub Ω)
  simpa only [sq_abs] using h

end Pomerol.Properties.C14Merge
