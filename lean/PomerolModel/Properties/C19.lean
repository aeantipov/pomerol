/-
  Property C19: truncation of the density matrix.  The library may discard all blocks whose Gibbs
  weights are all below a tolerance; the theorems state the retain rule as extracted from the
  source, that nothing is discarded at tolerance zero, the stripe rule (what is summed after
  truncation is the full sum minus the terms over discarded states), and bound the error the
  discarded contributions can cause in the Green's function, in thermal averages, in the dynamical
  susceptibility χ_AB and in the two-particle Green's function.

  Setting: `d : EigenData ι` (β > 0, eigenvalues, Gibbs weights `d.w`);
  `Gen.DM.retainsState w tol = decide (tol < w)` is the test extracted from the source
  (`DensityMatrixPart::truncate`: `weights(s) > Tolerance`); a block is retained when at least one of
  its states passes the test.

  The bounds and the stripe rule are theorems of `Spec/TruncBounds.lean` restated or combined here;
  `weight_difference_quotient` and `two_particle_bound_matsubara` (the imaginary-frequency bound of
  `Spec/TruncBounds.lean` at `δ = π/β`) are proved here; the extracted test is `Spec/Bridge.lean`'s.
-/
import PomerolModel.Spec.Bridge
import PomerolModel.Spec.TruncBounds

namespace Pomerol.Properties.C19
open Matrix Complex Pomerol Pomerol.Spec

variable {ι : Type} [Fintype ι] [DecidableEq ι]

/-- The retain rule: a block, given by the list `ws` of the weights of its states, is retained
(some state passes the extracted test) if and only if it contains a weight strictly larger than the
tolerance.  Equivalently it is discarded iff all its weights are `≤ tol`. -/
theorem retain_rule (ws : List ℝ) (tol : ℝ) :
    ws.any (fun w => Gen.DM.retainsState w tol) = true ↔ ∃ w ∈ ws, tol < w := by
  simp only [List.any_eq_true, Bridge.dm_retains]

/-- With tolerance zero nothing is discarded: every state's Gibbs weight passes the test (the
weights are strictly positive), hence every non-empty block (list `block` of eigenstates) is
retained. -/
theorem nothing_discarded_at_zero [Nonempty ι] (d : EigenData ι) :
    (∀ n, Gen.DM.retainsState (d.w n) 0 = true) ∧
    ∀ block : List ι, block ≠ [] →
      (block.map d.w).any (fun w => Gen.DM.retainsState w 0) = true := by
  have h1 : ∀ n, Gen.DM.retainsState (d.w n) 0 = true := fun n =>
    (Bridge.dm_retains (d.w n) 0).mpr (w_pos d n)
  refine ⟨h1, fun block hne => ?_⟩
  obtain ⟨n, hn⟩ := List.exists_mem_of_ne_nil block hne
  rw [retain_rule]
  exact ⟨d.w n, List.mem_map.mpr ⟨n, hn, rfl⟩, (Bridge.dm_retains _ _).mp (h1 n)⟩

/-- Error bound for the Green's function: the Lehmann terms of any set `S` of pairs of eigenstates
whose two weights are both `≤ eps` (the pairs that are lost when blocks with weights `≤ eps` are
discarded) contribute at most `2·eps·dim/|Im z|` in absolute value, at every `z` off the real
axis, given the canonical anticommutation relations `{c, c†} = 1` for both operators. -/
theorem green_function_bound [Nonempty ι] (d : EigenData ι) (C D : Matrix ι ι ℂ)
    (hC : C * Cᴴ + Cᴴ * C = 1) (hD : D * Dᴴ + Dᴴ * D = 1)
    (eps : ℝ) (heps : 0 ≤ eps) (S : Finset (ι × ι))
    (hS : ∀ p ∈ S, d.w p.1 ≤ eps ∧ d.w p.2 ≤ eps)
    (z : ℂ) (hz : z.im ≠ 0) :
    ‖∑ p ∈ S, C p.1 p.2 * (Dᴴ) p.2 p.1 * ((d.w p.1 : ℂ) + (d.w p.2 : ℂ))
        / (z - ((d.E p.2 - d.E p.1 : ℝ) : ℂ))‖
      ≤ 2 * eps * (Fintype.card ι) / |z.im| :=
  trunc_bound_G d C D hC hD eps heps S hS z hz

/-- Error bound for thermal averages: the states of any set `S` with weights `≤ eps` contribute at
most `eps·M·dim` to `Σ_s A_ss w_s`, where `M` bounds the diagonal matrix elements of the
observable. -/
theorem average_bound (d : EigenData ι) (A : Matrix ι ι ℂ) (M : ℝ) (hA : ∀ s, ‖A s s‖ ≤ M)
    (eps : ℝ) (heps : 0 ≤ eps) (S : Finset ι) (hS : ∀ s ∈ S, d.w s ≤ eps) :
    ‖∑ s ∈ S, A s s * (d.w s : ℂ)‖ ≤ eps * M * (Fintype.card ι) :=
  trunc_bound_avg d A M hA eps heps S hS

/-- The ingredient of the Green's-function bound: every row of the matrix of an operator obeying
`{c, c†} = 1` has squared norm at most one. -/
theorem row_norm_bound (C : Matrix ι ι ℂ) (hcar : C * Cᴴ + Cᴴ * C = 1) (n : ι) :
    ∑ m, Complex.normSq (C n m) ≤ 1 :=
  row_normSq_le_one C hcar n

/-- Concrete instance: with tolerance `1e-3` the block with weights `(1e-4, 2e-3)` is retained, the
block with weights `(1e-4, 5e-4)` is not. -/
example :
    ([1e-4, 2e-3] : List ℝ).any (fun w => Gen.DM.retainsState w 1e-3) = true ∧
    ¬ (([1e-4, 5e-4] : List ℝ).any (fun w => Gen.DM.retainsState w 1e-3) = true) := by
  rw [retain_rule, retain_rule]
  constructor
  · exact ⟨2e-3, by simp, by norm_num⟩
  · rintro ⟨w, hw, hlt⟩
    simp only [List.mem_cons, List.not_mem_nil, or_false] at hw
    rcases hw with rfl | rfl <;> norm_num at hlt

/-! ### susceptibility and two-particle function

`d.suscTerm A B k n m` is the `(n, m)` term of the bosonic Lehmann sum `d.lehmannSusc A B k`
(`lehmannSusc_eq_sum_suscTerm`, by `rfl`); `d.truncLehmannSusc A B D k` is that sum with the terms
whose two states both lie in the discarded set `D` left out (the stripe rule);
`d.worldLineTerm … n1 n2 n3 n4` is the term of one world line of `d.orderedLehmann` (one time
ordering of the two-particle function), `d.truncChiLehmann` the two-particle Lehmann sum with the
world lines whose four states all lie in `D` left out. -/

/-- The stripe rule is an identity: what the library sums after truncation (a term is kept unless
both its states are discarded) equals the full Lehmann sum minus the terms over pairs of discarded
states — for the Green's function and for the susceptibility. -/
theorem stripe_rule (d : EigenData ι) (C CX A B : Matrix ι ι ℂ) (D : Finset ι) (z : ℂ) (k : ℤ) :
    d.truncLehmannG C CX D z
        = d.lehmannG C CX z - ∑ p ∈ D ×ˢ D, d.gTerm C CX z p.1 p.2 ∧
    d.truncLehmannSusc A B D k
        = d.lehmannSusc A B k - ∑ p ∈ D ×ˢ D, d.suscTerm A B k p.1 p.2 :=
  ⟨stripe_rule_G d C CX D z, stripe_rule_susc d A B D k⟩

/-- Error bound for the susceptibility χ_AB(iΩ_k): the Lehmann terms of any set `S` of pairs of
eigenstates whose two weights are both `≤ eps` contribute, in absolute value,
at most `2·eps·W/|Ω_k|` at every non-zero bosonic Matsubara frequency, and at most `β·eps·W` at
zero frequency (where also the "zero-pole" terms `β·w_n·A_nm·B_mn` of degenerate levels and the
difference quotients `(w_n − w_m)/(E_m − E_n)` are covered), with `W = Σ_{n,m} |A_nm|·|B_mn|`.
No assumption on the operators `A`, `B` or on the spectrum. -/
theorem susceptibility_bound (d : EigenData ι) (A B : Matrix ι ι ℂ)
    (eps : ℝ) (heps : 0 ≤ eps) (S : Finset (ι × ι))
    (hS : ∀ p ∈ S, d.w p.1 ≤ eps ∧ d.w p.2 ≤ eps) :
    (∀ k : ℤ, k ≠ 0 →
      ‖∑ p ∈ S, d.suscTerm A B k p.1 p.2‖
        ≤ 2 * eps * (∑ n, ∑ m, ‖A n m‖ * ‖B m n‖) / |d.Ω k|) ∧
    ‖∑ p ∈ S, d.suscTerm A B 0 p.1 p.2‖
        ≤ d.β * eps * (∑ n, ∑ m, ‖A n m‖ * ‖B m n‖) :=
  ⟨fun k hk => susc_truncation_bound d A B k hk eps heps S hS,
   susc_truncation_bound_static d A B eps heps S hS⟩

/-- The same as a statement about the truncated susceptibility: if all states of the discarded set
`D` have weight `≤ eps`, the truncated bosonic Lehmann sum differs from the full one by at most
`2·eps·W/|Ω_k|` (`k ≠ 0`) resp. `β·eps·W` (`k = 0`). -/
theorem susceptibility_truncation_error (d : EigenData ι) (A B : Matrix ι ι ℂ)
    (eps : ℝ) (heps : 0 ≤ eps) (D : Finset ι) (hD : ∀ n ∈ D, d.w n ≤ eps) :
    (∀ k : ℤ, k ≠ 0 →
      ‖d.lehmannSusc A B k - d.truncLehmannSusc A B D k‖
        ≤ 2 * eps * (∑ n, ∑ m, ‖A n m‖ * ‖B m n‖) / |d.Ω k|) ∧
    ‖d.lehmannSusc A B 0 - d.truncLehmannSusc A B D 0‖
        ≤ d.β * eps * (∑ n, ∑ m, ‖A n m‖ * ‖B m n‖) :=
  ⟨fun k hk => susc_stripe_error d A B k hk eps heps D hD,
   susc_stripe_error_static d A B eps heps D hD⟩

/-- Dimension form for quadratic operators `A = c†_a c_b`, `B = c†_c c_d` built from operators
obeying `{c, c†} = 1`: then `W ≤ dim`, so the truncation error of the susceptibility is at most
`2·eps·dim/|Ω_k|` (`k ≠ 0`) resp. `β·eps·dim` (`k = 0`). -/
theorem susceptibility_bound_dim (d : EigenData ι) (Ca Cb Cc Cd : Matrix ι ι ℂ)
    (ha : Ca * Caᴴ + Caᴴ * Ca = 1) (hb : Cb * Cbᴴ + Cbᴴ * Cb = 1)
    (hc : Cc * Ccᴴ + Ccᴴ * Cc = 1) (hd : Cd * Cdᴴ + Cdᴴ * Cd = 1)
    (eps : ℝ) (heps : 0 ≤ eps) (D : Finset ι) (hD : ∀ n ∈ D, d.w n ≤ eps) :
    (∀ k : ℤ, k ≠ 0 →
      ‖d.lehmannSusc (Caᴴ * Cb) (Ccᴴ * Cd) k - d.truncLehmannSusc (Caᴴ * Cb) (Ccᴴ * Cd) D k‖
        ≤ 2 * eps * (Fintype.card ι) / |d.Ω k|) ∧
    ‖d.lehmannSusc (Caᴴ * Cb) (Ccᴴ * Cd) 0 - d.truncLehmannSusc (Caᴴ * Cb) (Ccᴴ * Cd) D 0‖
        ≤ d.β * eps * (Fintype.card ι) :=
  ⟨fun k hk => susc_stripe_error_dim d _ _ (quadratic_row_normSq_le_one Ca Cb ha hb)
      (quadratic_col_normSq_le_one Cc Cd hc hd) k hk eps heps D hD,
   susc_stripe_error_static_dim d _ _ (quadratic_row_normSq_le_one Ca Cb ha hb)
      (quadratic_col_normSq_le_one Cc Cd hc hd) eps heps D hD⟩

/-- The scalar fact behind the zero-frequency bound: the difference quotient of two Boltzmann
factors is at most `β` times the larger one. -/
theorem weight_difference_quotient (β : ℝ) (hβ : 0 < β) (a b : ℝ) (hab : a ≠ b) :
    |Real.exp (-β * a) - Real.exp (-β * b)| / |b - a|
      ≤ β * max (Real.exp (-β * a)) (Real.exp (-β * b)) := by
  have hpos : 0 < |b - a| := abs_pos.mpr (sub_ne_zero.mpr (Ne.symm hab))
  rw [div_le_iff₀ hpos]
  refine ratio_diff_le hβ.le (Real.exp_pos _).le ?_
  rw [← Real.exp_add]
  congr 1; ring

/-- Error bound for the two-particle Green's function, partial (non-resonant regime only): for one
time ordering with complex frequencies `za, zb, zc`, let `S` be any set of world lines (quadruples
of eigenstates) whose four weights are all `≤ eps` and for which all six denominators of the
library's four-term expression (`z_a − P_a`, `z_a + z_b − P_a − P_b`, `z_b + z_c − P_b − P_c`,
`z_a + z_b + z_c − P_a − P_b − P_c`, `P` = level differences along the world line) are at least
`δ > 0` in modulus.  Then these world lines contribute at most `6·eps/δ³ · W₄` in absolute value,
`W₄ = Σ |A_{12}|·|B_{23}|·|C_{34}|·|X_{41}|`.
Not covered by this statement: resonant / near-resonant world lines (bosonic denominators below
`δ`), where the expression contains terms proportional to `β`; see `two_particle_bound_matsubara`
for a statement that covers them at Matsubara frequencies. -/
theorem two_particle_bound_partial (d : EigenData ι) (A B Cc X : Matrix ι ι ℂ) (za zb zc : ℂ)
    (eps δ : ℝ) (heps : 0 ≤ eps) (hδ : 0 < δ) (S : Finset (ι × ι × ι × ι))
    (hS : ∀ p ∈ S, d.w p.1 ≤ eps ∧ d.w p.2.1 ≤ eps ∧ d.w p.2.2.1 ≤ eps ∧ d.w p.2.2.2 ≤ eps)
    (hnr : ∀ p ∈ S, NonResonant δ za zb zc
      (d.E p.2.1 - d.E p.1) (d.E p.2.2.1 - d.E p.2.1) (d.E p.2.2.2 - d.E p.2.2.1)) :
    ‖∑ p ∈ S, d.worldLineTerm A B Cc X za zb zc p.1 p.2.1 p.2.2.1 p.2.2.2‖
      ≤ 6 * eps / δ ^ 3 * absWeight4 A B Cc X :=
  chi4_truncation_bound_partial d A B Cc X za zb zc eps δ heps hδ S hS hnr

/-- Error bound for the two-particle Green's function at fermionic Matsubara frequencies, all
frequency triples and all resonance classes: if all states of the discarded set `D` have weight
`≤ eps`, the two-particle Lehmann sum with the world lines inside `D` left out differs from the
full one by at most `(4 + 2π)·eps·β³/π³ · W`, `W` = the sum over the six time orderings of
`Σ |O_{12}|·|O'_{23}|·|O''_{34}|·|X_{41}|`.  (At purely imaginary frequencies a small bosonic
denominator comes with a small weight difference, so the bracket is never larger than `β·eps`.) -/
theorem two_particle_bound_matsubara (d : EigenData ι) (O : Fin 3 → Matrix ι ι ℂ)
    (X : Matrix ι ι ℂ) (k1 k2 k3 : ℤ) (eps : ℝ) (heps : 0 ≤ eps)
    (D : Finset ι) (hD : ∀ n ∈ D, d.w n ≤ eps) :
    ‖d.chiLehmann O X ![I * (d.ω k1 : ℂ), I * (d.ω k2 : ℂ), -(I * (d.ω k3 : ℂ))]
        - d.truncChiLehmann O X D ![I * (d.ω k1 : ℂ), I * (d.ω k2 : ℂ), -(I * (d.ω k3 : ℂ))]‖
      ≤ (4 + 2 * Real.pi) * eps * d.β ^ 3 / Real.pi ^ 3 * absWeightChi O X := by
  have hpos : 0 < Real.pi / d.β := div_pos Real.pi_pos d.hβ
  have hz : (![I * (d.ω k1 : ℂ), I * (d.ω k2 : ℂ), -(I * (d.ω k3 : ℂ))] : Fin 3 → ℂ)
      = fun a => I * ((![d.ω k1, d.ω k2, -d.ω k3] : Fin 3 → ℝ) a : ℂ) := by
    funext a
    fin_cases a <;> simp
  rw [hz]
  have h := chi_stripe_error_imag d O X ![d.ω k1, d.ω k2, -d.ω k3] eps (Real.pi / d.β) heps hpos
    (fun a => by
      fin_cases a
      · exact abs_omega_ge d k1
      · exact abs_omega_ge d k2
      · exact (abs_omega_ge d k3).trans_eq (abs_neg _).symm)
    (by
      have e : (![d.ω k1, d.ω k2, -d.ω k3] : Fin 3 → ℝ) 0 + (![d.ω k1, d.ω k2, -d.ω k3] : Fin 3 → ℝ) 1
          + (![d.ω k1, d.ω k2, -d.ω k3] : Fin 3 → ℝ) 2 = d.ω (k1 + k2 - k3) := by
        rw [← omega_add_sub]; simp
      rw [e]; exact abs_omega_ge d _)
    D hD
  refine h.trans_eq ?_
  have hπ : Real.pi ≠ 0 := Real.pi_ne_zero
  have hβ : d.β ≠ 0 := d.hβ.ne'
  congr 1
  field_simp

/-- The hypotheses of `susceptibility_bound` are satisfiable non-trivially: two levels `E = 0, 1`
at `β = 1`, tolerance `1/2`; the upper level has weight `≤ 1/2` (so the pair `(1,1)` may be
skipped) while the lower level has weight `> 1/2` (so not everything is discarded). -/
example : ∃ (d : EigenData (Fin 2)) (eps : ℝ) (S : Finset (Fin 2 × Fin 2)),
    0 ≤ eps ∧ eps < 1 ∧ S.Nonempty ∧ (∀ p ∈ S, d.w p.1 ≤ eps ∧ d.w p.2 ≤ eps) ∧
      ∃ n, eps < d.w n := by
  -- two weights in Boltzmann ratio `e^{-1} < 1` that add up to 1
  obtain ⟨d, hd⟩ : ∃ d : EigenData (Fin 2), d = ⟨1, one_pos, ![0, 1]⟩ := ⟨_, rfl⟩
  have he : -d.β * (d.E 1 - d.E 0) = -1 := by simp [hd]
  have hr := w_ratio' d 0 1
  rw [he] at hr
  have hs := w_sum d
  rw [Fin.sum_univ_two] at hs
  have h1 : d.w 1 < d.w 0 := by
    rw [hr]
    exact mul_lt_of_lt_one_right (w_pos d 0) (Real.exp_lt_one_iff.mpr (by norm_num))
  have h2 : d.w 1 ≤ 1 / 2 := by linarith
  refine ⟨d, 1 / 2, {(1, 1)}, by norm_num, by norm_num, ⟨(1, 1), Finset.mem_singleton_self _⟩,
    fun p hp => ?_, 0, by linarith⟩
  rw [Finset.mem_singleton] at hp
  subst hp
  exact ⟨h2, h2⟩

/-- The non-resonance hypothesis of `two_particle_bound_partial` is satisfiable: frequencies
`z_a = i·1` are non-resonant with margin `δ = 1` whatever the level differences are (more generally
`nonResonant_of_imag`: any purely imaginary triple with non-vanishing partial sums). -/
example (P1 P2 P3 : ℝ) :
    NonResonant 1 (I * ((1:ℝ):ℂ)) (I * ((1:ℝ):ℂ)) (I * ((1:ℝ):ℂ)) P1 P2 P3 :=
  nonResonant_of_imag 1 1 1 1 (by norm_num) (by norm_num) (by norm_num) (by norm_num)
    (by norm_num) (by norm_num) P1 P2 P3

end Pomerol.Properties.C19
