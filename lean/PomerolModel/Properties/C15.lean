/-
  Property C15.  Storage: reading the vertex through the precomputed Matsubara storage returns, for
  every window size and every frequency triple inside or outside the window, exactly the value of the
  direct formula -- and no access of the storage is out of range.  Formula: the extracted
  `Vertex4::value` is `χ − χ⁰` with the documented disconnected part `chi0` (`vertex_formula`).

  The model (`Model/MC4.lean`) is built from the index formulas extracted from the C++ source
  (`Generated/MC4Formulas.lean`), so these theorems are re-proved against the current code.
-/
import PomerolModel.Model.MC4
import PomerolModel.Generated.VertexFormulas
import Mathlib.Tactic.Ring

namespace Pomerol.Properties.C15
open Pomerol.Gen.MC4 Pomerol.Model Pomerol.Model.MC4

variable {α : Type}

/-- What `fill` stores at slot `(a, b)` of the slice with offset `off` and bosonic index `B`. -/
def stored (f : Source α) (B off : Int) (a b : Int) : α :=
  f (a + off) (B - (a + off)) (b + off)

/-- The `S × S` matrix of a slice holds what `fill` stores at exactly the slots satisfying `P`. -/
def Filled (f : Source α) (B off S : Int) (P : Int → Int → Prop) (m : Mat α) : Prop :=
  m.rows = S ∧ m.cols = S ∧
  ∀ a b, (P a b → m.get a b = some (stored f B off a b)) ∧ (¬ P a b → m.get a b = none)

theorem Filled.congr {f : Source α} {B off S : Int} {P Q : Int → Int → Prop} {m : Mat α}
    (h : Filled f B off S P m) (hPQ : ∀ a b, P a b ↔ Q a b) : Filled f B off S Q m :=
  ⟨h.1, h.2.1, fun a b => by rw [← hPQ a b]; exact h.2.2 a b⟩

theorem Filled.storeOne {f : Source α} {B off S : Int} {P : Int → Int → Prop} {m : Mat α}
    (h : Filled f B off S P m) (nu j : Int) (hnu : 0 ≤ nu ∧ nu < S) (hj : 0 ≤ j ∧ j < S) :
    ∃ m', storeOne f B off nu j m = .ok m' ∧
      Filled f B off S (fun a b => P a b ∨ (a = nu ∧ b = j)) m' := by
  obtain ⟨hr, hc, hg⟩ := h
  refine ⟨{ m with get := fun a b =>
    (if a = nu ∧ b = j then some (stored f B off nu j) else m.get a b) }, ?_, hr, hc, fun a b => ?_⟩
  · simp only [MC4.storeOne, Mat.write]
    rw [if_pos (by rw [hr, hc]; exact ⟨hnu.1, hnu.2, hj⟩)]
    rfl
  · by_cases hab : a = nu ∧ b = j
    · obtain ⟨rfl, rfl⟩ := hab
      exact ⟨fun _ => if_pos ⟨rfl, rfl⟩, fun hn => absurd (Or.inr ⟨rfl, rfl⟩) hn⟩
    · refine ⟨fun hp => (if_neg hab).trans ((hg a b).1 (hp.resolve_right hab)),
        fun hn => (if_neg hab).trans ((hg a b).2 fun hp => hn (Or.inl hp))⟩

def rowsBelow (S nu : Int) (a b : Int) : Prop := 0 ≤ a ∧ a < nu ∧ 0 ≤ b ∧ b < S

theorem rowsBelow_succ {S nu : Int} (hnu : 0 ≤ nu) (a b : Int) :
    rowsBelow S nu a b ∨ (a = nu ∧ 0 ≤ b ∧ b < S) ↔ rowsBelow S (nu + 1) a b := by
  unfold rowsBelow
  omega

/-- before the inner loop starts (`nupLoopStart = 0`) no slot of row `nu` is filled -/
theorem rowsBelow_start (S nu a b : Int) :
    rowsBelow S nu a b ↔ rowsBelow S nu a b ∨ (a = nu ∧ 0 ≤ b ∧ b < nupLoopStart) :=
  (or_iff_left fun ⟨_, h0, hlt⟩ => Int.not_lt.mpr h0 hlt).symm

/-- the fuel `S.toNat` covers a loop from `0` to `S` (the three loop starts are `0` by definition) -/
theorem fuel_from_zero (S : Int) : S - 0 ≤ S.toNat :=
  (Int.sub_zero S).trans_le (Int.self_le_toNat S)

theorem fillRow_spec (f : Source α) (B off S nu : Int) (m : Mat α) (hnu : 0 ≤ nu) (hnuS : nu < S)
    (h : Filled f B off S (rowsBelow S nu) m) :
    ∃ m', fillRow f B off S nu m = .ok m' ∧ Filled f B off S (rowsBelow S (nu + 1)) m' := by
  -- invariant of the inner loop: the rows `< nu` and the first `j` slots of row `nu`
  obtain ⟨m', hrun, hj, hinv⟩ := forLoop_spec (σ := Mat α) Err.fuel (fun nup => nupLoopCond nup S)
    (storeOne f B off nu)
    (fun j m => 0 ≤ j ∧ Filled f B off S (fun a b => rowsBelow S nu a b ∨ (a = nu ∧ 0 ≤ b ∧ b < j)) m)
    S
    (by
      rintro j m hjS ⟨hj0, hinv⟩
      obtain ⟨m', hrun, hinv'⟩ := hinv.storeOne nu j ⟨hnu, hnuS⟩ ⟨hj0, hjS⟩
      refine ⟨m', hrun, Int.le_add_one hj0, hinv'.congr fun a b => ?_⟩
      -- the new slot `(nu, j)` extends the filled part of row `nu`
      have hslot : (0 ≤ b ∧ b < j) ∨ b = j ↔ 0 ≤ b ∧ b < j + 1 := by omega
      rw [or_assoc, ← and_or_left, hslot])
    S.toNat nupLoopStart m
    (by intro i _; simp [nupLoopCond])
    (fuel_from_zero S)
    (Int.le_trans hnu (Int.le_of_lt hnuS))
    ⟨Int.le_refl 0, h.congr (rowsBelow_start S nu)⟩
  exact ⟨m', hrun, hinv.congr (rowsBelow_succ hnu)⟩

def FullMat (f : Source α) (B off S : Int) (m : Mat α) : Prop :=
  m.rows = S ∧ m.cols = S ∧
  ∀ a b, 0 ≤ a → a < S → 0 ≤ b → b < S → m.get a b = some (stored f B off a b)

theorem fillMat_spec (f : Source α) (B off S : Int) (hS : 0 ≤ S) :
    ∃ m0 m, Mat.resize (sliceRows S) (sliceCols S) = .ok m0 ∧
      forLoop Err.fuel (fun nu => nuLoopCond nu S) (fillRow f B off S) S.toNat nuLoopStart m0 = .ok m ∧
      FullMat f B off S m := by
  refine ⟨⟨S, S, fun _ _ => none⟩, ?_⟩
  have hres : Mat.resize (α := α) (sliceRows S) (sliceCols S) = .ok ⟨S, S, fun _ _ => none⟩ := by
    unfold Mat.resize
    rw [if_neg (by simp only [sliceRows, sliceCols]; omega)]
    rfl
  obtain ⟨m, hrun, -, hr, hc, hg⟩ := forLoop_spec (σ := Mat α) Err.fuel (fun nu => nuLoopCond nu S)
    (fillRow f B off S) (fun nu m => 0 ≤ nu ∧ Filled f B off S (rowsBelow S nu) m) S
    (by
      rintro nu m hnu ⟨hnu0, hinv⟩
      obtain ⟨m', hrun, hinv'⟩ := fillRow_spec f B off S nu m hnu0 hnu hinv
      exact ⟨m', hrun, Int.le_add_one hnu0, hinv'⟩)
    S.toNat nuLoopStart ⟨S, S, fun _ _ => none⟩
    (by intro i _; simp [nuLoopCond])
    (fuel_from_zero S)
    hS
    -- empty range at the start: `rowsBelow S 0 a b` would need `0 ≤ a < 0`
    ⟨Int.le_refl 0, rfl, rfl, fun a b =>
      ⟨fun h => absurd h.2.1 (Int.not_lt.mpr h.1), fun _ => rfl⟩⟩
  exact ⟨m, hres, hrun, hr, hc, fun a b h1 h2 h3 h4 => (hg a b).1 ⟨h1, h2, h3, h4⟩⟩

/-- State of the container after the slices `< V` have been filled (window size `N ≥ 1`). -/
def InvC (f : Source α) (N : Int) (V : Int) (c : Container α) : Prop :=
  0 ≤ V ∧ c.N = N ∧ c.nValues = 4 * N - 1 ∧ c.nOffsets = 4 * N - 1 ∧
  ∀ v, (0 ≤ v ∧ v < V →
          c.offsets v = some (fermionicIndexOffset (bosonicIndex v N) N) ∧
          ∃ m, c.values v = some m ∧
            FullMat f (bosonicIndex v N) (fermionicIndexOffset (bosonicIndex v N) N)
              (fermionicMatrixSize (bosonicIndex v N) N) m)

theorem size_nonneg (N V : Int) (h0 : 0 ≤ V) (h1 : V < 4 * N - 1) :
    0 ≤ fermionicMatrixSize (bosonicIndex V N) N := by
  simp only [fermionicMatrixSize, bosonicIndex, absI]
  omega

theorem fillSlice_spec (f : Source α) (N V : Int) (hV : V < 4 * N - 1)
    (c : Container α) (h : InvC f N V c) :
    ∃ c', fillSlice f N V c = .ok c' ∧ InvC f N (V + 1) c' := by
  obtain ⟨hV0, hcN, hnv, hno, hall⟩ := h
  have hS := size_nonneg N V hV0 hV
  obtain ⟨m0, m, hres, hrun, hfull⟩ :=
    fillMat_spec f (bosonicIndex V N) (fermionicIndexOffset (bosonicIndex V N) N) _ hS
  refine ⟨{ c with
      values := fun v => if v = V then some m else c.values v,
      offsets := fun v => if v = V then some (fermionicIndexOffset (bosonicIndex V N) N) else c.offsets v },
    ?_, ?_⟩
  · simp only [fillSlice]
    rw [if_neg (by rw [hnv]; exact not_not_intro ⟨hV0, hV⟩)]
    simp only [hres]
    rw [if_neg (by rw [hno]; exact not_not_intro ⟨hV0, hV⟩)]
    simp only [hrun]
  · refine ⟨Int.le_add_one hV0, hcN, hnv, hno, ?_⟩
    intro v hv
    by_cases hvV : v = V
    · subst hvV
      simp only [if_true]
      exact ⟨trivial, m, rfl, hfull⟩
    · simp only [if_neg hvV]
      have hlt : v < V := Int.lt_iff_le_and_ne.mpr ⟨Int.lt_add_one_iff.mp hv.2, hvV⟩
      exact hall v ⟨hv.1, hlt⟩

/-- Post-condition of `fill` for a non-empty window. -/
theorem fill_spec (f : Source α) (N : Int) (hN : 1 ≤ N) :
    ∃ c, fill f N = .ok c ∧ InvC f N (4 * N - 1) c := by
  have key := forLoop_spec (σ := Container α) Err.fuel (fun V => sliceLoopCond V N) (fillSlice f N)
    (InvC f N) (4 * N - 1)
    (by intro V c hV hinv; exact fillSlice_spec f N V hV c hinv)
    (valuesSize N).toNat sliceLoopStart
    ⟨N, valuesSize N, offsetsSize N, fun _ => none, fun _ => none⟩
    (by intro i _; simp only [sliceLoopCond, decide_eq_true_eq]; omega)
    -- `sliceLoopStart` is `0`, and the bound `4 * N - 1` is `valuesSize N`
    (fuel_from_zero (valuesSize N))
    (by simp only [sliceLoopStart]; omega)
    -- empty range at the start: no `v` with `0 ≤ v < 0`
    ⟨Int.le_refl 0, rfl, rfl, rfl, fun v hv => absurd hv.2 (Int.not_lt.mpr hv.1)⟩
  obtain ⟨c, hrun, hinv⟩ := key
  refine ⟨c, ?_, ?_⟩
  · simp only [fill]
    rw [if_neg (by simp only [fillEmptyCond, decide_eq_true_eq]; omega)]
    rw [if_neg (by simp only [valuesSize, offsetsSize]; omega)]
    exact hrun
  · exact hinv

theorem lookupVInRange_iff (V N : Int) :
    lookupVInRange V N = true ↔ 0 ≤ V ∧ V ≤ 4 * N - 2 := by
  unfold lookupVInRange
  rw [Bool.and_eq_true, decide_eq_true_eq, decide_eq_true_eq]
  omega

theorem lookupInRange_iff (nu nup rows cols : Int) :
    lookupInRange nu nup rows cols = true ↔ 0 ≤ nu ∧ nu < rows ∧ 0 ≤ nup ∧ nup < cols := by
  unfold lookupInRange
  rw [Bool.and_eq_true, Bool.and_eq_true, Bool.and_eq_true, decide_eq_true_eq, decide_eq_true_eq,
    decide_eq_true_eq, decide_eq_true_eq, and_assoc, and_assoc]

/-- **C15, storage transparency** (`MatsubaraContainers.h`): `fill` succeeds without any out-of-range
write and the subsequent read returns `f n1 n2 n3` without any out-of-range or uninitialised read, for
every window size, source and integer triple. -/
theorem fill_lookup_transparent (f : Source α) (N : Nat) (n1 n2 n3 : Int) :
    ∃ c, fill f (N : Int) = .ok c ∧ lookup c f n1 n2 n3 = .ok (f n1 n2 n3) := by
  by_cases hN0 : N = 0
  · subst hN0
    refine ⟨⟨0, 0, 0, fun _ => none, fun _ => none⟩, ?_, ?_⟩
    · simp [fill, fillEmptyCond]
    · have h : ¬ lookupVInRange (lookupV n1 n2 0) 0 = true := by
        rw [lookupVInRange_iff]; omega
      unfold lookup
      dsimp only
      rw [if_neg h]
  · have hN : (1 : Int) ≤ (N : Int) := by omega
    obtain ⟨c, hfill, hV0, hcN, hnv, hno, hall⟩ := fill_spec f (N : Int) hN
    refine ⟨c, hfill, ?_⟩
    unfold lookup
    simp only [hcN]
    generalize hV : lookupV n1 n2 (N : Int) = V
    by_cases hin : lookupVInRange V N = true
    · rw [if_pos hin]
      rw [lookupVInRange_iff] at hin
      have hv : 0 ≤ V ∧ V < 4 * (N : Int) - 1 := by omega
      obtain ⟨hoff, m, hm, hr, hc, hg⟩ := hall V hv
      rw [if_neg (by rw [hno]; exact not_not_intro hv)]
      simp only [hoff]
      rw [if_neg (by rw [hnv]; exact not_not_intro hv)]
      simp only [hm]
      generalize hO : fermionicIndexOffset (bosonicIndex V N) N = off at *
      by_cases hel : lookupInRange (lookupNu n1 off) (lookupNup n3 off) m.rows m.cols = true
      · rw [if_pos hel]
        rw [lookupInRange_iff, hr, hc] at hel
        unfold Mat.read
        rw [if_pos (by rw [hr, hc]; exact hel)]
        rw [hg _ _ hel.1 hel.2.1 hel.2.2.1 hel.2.2.2]
        simp only [stored]
        have e1 : lookupNu n1 off + off = n1 := Int.sub_add_cancel n1 off
        have e3 : lookupNup n3 off + off = n3 := Int.sub_add_cancel n3 off
        have e2 : bosonicIndex V N - n1 = n2 := by
          rw [← hV, bosonicIndex, lookupV, Int.add_sub_cancel, Int.add_sub_cancel]
        rw [e1, e2, e3]
      · rw [if_neg hel]
    · rw [if_neg hin]

/-- The documented disconnected part
`χ⁰ = β (δ_{n2,n3} G14(n1) G23(n2) − δ_{n1,n3} G13(n1) G24(n2))`. -/
def chi0 {K : Type} [CommRing K] (G13 G24 G14 G23 : Int → K) (β : K) (n1 n2 n3 : Int) : K :=
  β * ((if n2 = n3 then G14 n1 * G23 n2 else 0) - (if n1 = n3 then G13 n1 * G24 n2 else 0))

/-- **C15, vertex formula.**  `Vertex4::value` (extracted from the source) equals `χ − χ⁰`, in any
commutative ring of values (in particular ℂ), with an arbitrary embedding `ofReal` of the real sort. -/
theorem vertex_formula {R K : Type} [Add R] [Sub R] [Mul R] [Div R] [Neg R] [Zero R] [One R] [NatCast R]
    [LT R] [DecidableLT R] [HasExp R] [CommRing K] [Div K] [HasExp K] [CplxOver R K]
    (chi : Int → Int → Int → K) (G13 G24 G14 G23 : Int → K) (β : R) (n1 n2 n3 : Int) :
    Pomerol.Gen.Vertex.vertexValue chi G13 G24 G14 G23 β n1 n2 n3 =
      chi n1 n2 n3 - chi0 G13 G24 G14 G23 (CplxOver.ofReal β) n1 n2 n3 := by
  unfold Pomerol.Gen.Vertex.vertexValue chi0
  by_cases h13 : n1 = n3 <;> by_cases h23 : n2 = n3 <;> simp [h13, h23] <;> ring

/-- Non-vacuity / sanity: a concrete window, a hit and a miss, evaluated by the kernel. -/
example : (match fill (fun a b c => (a, b, c)) 2 with
    | .ok c => (isHit c 0 (-1) 1, isHit c 5 0 0,
                (lookup c (fun a b c => (a, b, c)) 0 (-1) 1).toOption,
                (lookup c (fun a b c => (a, b, c)) 5 0 0).toOption)
    | .error _ => (false, true, none, none)) = (true, false, some (0, -1, 1), some (5, 0, 0)) := by
  decide

end Pomerol.Properties.C15
