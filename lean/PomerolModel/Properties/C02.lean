/-
  Property C02: the two-particle Green's function the library evaluates equals its definition -- the
  Fourier transform of the time-ordered four-operator correlator -- at every triple of fermionic
  Matsubara frequencies, for every spectrum, including all resonant (degenerate) cases.

  Setting: `d : EigenData ι` (β > 0, eigenvalues `d.E`, Gibbs weights `d.w`).
  `simplexIntegral β a₁ a₂ a₃ = ∫₀^β dτ₁ e^{a₁τ₁} ∫₀^{τ₁} dτ₂ e^{a₂τ₂} ∫₀^{τ₂} dτ₃ e^{a₃τ₃}`;
  `multiTerm β z₁ z₂ z₃ P₁ P₂ P₃ w_i w_j w_k w_l` is the closed form the library uses for one "world
  line" of four eigenstates (two non-resonant and two possibly resonant terms);
  `d.orderedIntegral A B C X z_a z_b z_c` is the contribution of ONE time ordering
  `s₁ > s₂ > s₃ > 0` to the definition (triple integral of `Tr(ρ A(s₁) B(s₂) C(s₃) X)` with genuine
  matrix exponentials), `d.orderedLehmann …` what the library accumulates for it;
  `d.chiDef O X z` / `d.chiLehmann O X z` are the signed sums over the six orderings (`O 0 = c_i`,
  `O 1 = c_j`, `O 2 = c†_k`, `X = c†_l`, `z = (iω₁, iω₂, −iω₃)`).
  The formulas in namespace `Gen.Chi4` are EXTRACTED FROM THE SOURCE (`TwoParticleGFPart.cpp`).

  The statements about the sum over ALL quadruples of eigenstates rest on `Spec/Simplex.lean`,
  `Spec/Chi4.lean`, `Spec/Bridge.lean`; those about the loops the code really runs (the sparse
  world-line enumeration, `Model/Chi4Part.lean`, and the world-stripe selection,
  `Model/Chi4Prepare.lean`) on `Spec/Chi4Refine.lean` and `Spec/Chi4PrepareSpec.lean`; the last section
  evaluates the extracted term comparison (finding F16).
-/
import PomerolModel.Spec.Bridge
import PomerolModel.Spec.Chi4Refine
import PomerolModel.Spec.Chi4PrepareSpec

namespace Pomerol.Properties.C02
open Matrix Complex Pomerol Pomerol.Spec

variable {ι : Type} [Fintype ι] [DecidableEq ι]

/-- The library's closed form of one world line IS the ordered triple integral:
`w_i · ∫_{β>τ₁>τ₂>τ₃>0} e^{(z₁−P₁)τ₁ + (z₂−P₂)τ₂ + (z₃−P₃)τ₃} = multiTerm`, for `z₁,z₂,z₃` fermionic
Matsubara frequencies (any complex numbers with `e^{βz} = −1`), arbitrary real level differences
`P₁,P₂,P₃` (coinciding levels allowed) and weights related by Boltzmann factors along the world
line.  All four resonance classes (`z₁+z₂ = P₁+P₂` or not, `z₂+z₃ = P₂+P₃` or not) are covered. -/
theorem multiterm_is_simplex_integral (β : ℝ) (hβ : 0 < β) (z1 z2 z3 : ℂ)
    (h1 : Complex.exp ((β:ℂ) * z1) = -1) (h2 : Complex.exp ((β:ℂ) * z2) = -1)
    (h3 : Complex.exp ((β:ℂ) * z3) = -1)
    (P1 P2 P3 : ℝ) (wi wj wk wl : ℝ)
    (hj : wj = wi * Real.exp (-β * P1)) (hk : wk = wj * Real.exp (-β * P2))
    (hl : wl = wk * Real.exp (-β * P3)) :
    (wi : ℂ) * simplexIntegral β (z1 - P1) (z2 - P2) (z3 - P3)
      = multiTerm β z1 z2 z3 P1 P2 P3 wi wj wk wl :=
  simplex_closed_form β hβ z1 z2 z3 h1 h2 h3 P1 P2 P3 wi wj wk wl hj hk hl

/-- One time ordering: the triple integral over `β > s₁ > s₂ > s₃ > 0` of the four-operator
correlator `Tr(ρ A(s₁) B(s₂) C(s₃) X)` times `e^{z_a s₁ + z_b s₂ + z_c s₃}` equals the sum over
four eigenstates of matrix elements times `multiTerm` that the library accumulates, for all
matrices, every spectrum and all fermionic `z_a, z_b, z_c`. -/
theorem ordered_simplex (d : EigenData ι) (A B Cc X : Matrix ι ι ℂ) (za zb zc : ℂ)
    (ha : Complex.exp ((d.β:ℂ) * za) = -1) (hb : Complex.exp ((d.β:ℂ) * zb) = -1)
    (hc : Complex.exp ((d.β:ℂ) * zc) = -1) :
    d.orderedIntegral A B Cc X za zb zc = d.orderedLehmann A B Cc X za zb zc :=
  ordered_lehmann d A B Cc X za zb zc ha hb hc

/-- MAIN STATEMENT: the definition (signed sum over the six time orderings of the ordered
integrals) equals what the library evaluates (signed sum over the six permutations of the
accumulated multi-terms) -- for all fermionic frequency triples, and in particular at the
Matsubara triple `(iω_{k₁}, iω_{k₂}, −iω_{k₃})` for all integers `k₁,k₂,k₃`. -/
theorem chi_equals_definition (d : EigenData ι) (O : Fin 3 → Matrix ι ι ℂ) (X : Matrix ι ι ℂ) :
    (∀ z : Fin 3 → ℂ, (∀ k, Complex.exp ((d.β:ℂ) * z k) = -1) →
      d.chiDef O X z = d.chiLehmann O X z) ∧
    ∀ k1 k2 k3 : ℤ,
      d.chiDef O X ![I * (d.ω k1 : ℂ), I * (d.ω k2 : ℂ), -(I * (d.ω k3 : ℂ))] =
      d.chiLehmann O X ![I * (d.ω k1 : ℂ), I * (d.ω k2 : ℂ), -(I * (d.ω k3 : ℂ))] :=
  ⟨fun z hz => chi_lehmann d O X z hz, fun k1 k2 k3 => chi_lehmann_matsubara d O X k1 k2 k3⟩

/-- The four terms the EXTRACTED code creates for one world line (`addMultiterm`: coefficients
`coeffZ2`, `coeffZ4`, `coeffZ1Z2Res/NonRes`, `coeffZ2Z3Res/NonRes`, poles `p1,p2,p3`), evaluated
with the extracted term formulas, add up to `coeff · multiTerm`, provided the resonance test
`|Diff| < tol` coincides with `Diff = 0` (exact idealisation of the tolerance). -/
theorem extracted_multiterm (coeff : ℂ) (β Ei Ej Ek El wi wj wk wl : ℝ) (z1 z2 z3 : ℂ) (ktol : ℝ)
    (h12 : ‖z1 + z2 - ((Ej - Ei : ℝ):ℂ) - ((Ek - Ej : ℝ):ℂ)‖ < ktol ↔
      z1 + z2 - ((Ej - Ei : ℝ):ℂ) - ((Ek - Ej : ℝ):ℂ) = 0)
    (h23 : ‖z2 + z3 - ((Ek - Ej : ℝ):ℂ) - ((El - Ek : ℝ):ℂ)‖ < ktol ↔
      z2 + z3 - ((Ek - Ej : ℝ):ℂ) - ((El - Ek : ℝ):ℂ) = 0) :
    let P1 := Gen.Chi4.p1 Ei Ej Ek El; let P2 := Gen.Chi4.p2 Ei Ej Ek El
    let P3 := Gen.Chi4.p3 Ei Ej Ek El
    Gen.Chi4.nonResZ2 (Gen.Chi4.coeffZ2 coeff β wi wj wk wl) P1 P2 P3 z1 z2 z3
    + Gen.Chi4.nonResZ4 (Gen.Chi4.coeffZ4 coeff β wi wj wk wl) P1 P2 P3 z1 z2 z3
    + Gen.Chi4.resZ1Z2 (Gen.Chi4.coeffZ1Z2Res coeff β wi wj wk wl)
        (Gen.Chi4.coeffZ1Z2NonRes coeff β wi wj wk wl)
        (Gen.Chi4.diffZ1Z2 P1 P2 P3 z1 z2 z3) ktol P1 P2 P3 z1 z2 z3
    + Gen.Chi4.resZ2Z3 (Gen.Chi4.coeffZ2Z3Res coeff β wi wj wk wl)
        (Gen.Chi4.coeffZ2Z3NonRes coeff β wi wj wk wl)
        (Gen.Chi4.diffZ2Z3 P1 P2 P3 z1 z2 z3) ktol P1 P2 P3 z1 z2 z3
    = coeff * multiTerm β z1 z2 z3 (Ej - Ei) (Ek - Ej) (El - Ek) wi wj wk wl :=
  Bridge.chi4_multiterm coeff β Ei Ej Ek El wi wj wk wl z1 z2 z3 ktol h12 h23

/-- The extracted tables: `permutations3` is the table of the six orderings with the signs used in
the definition; the frequency table is `(z₁, z₂, −z₃)`; and every entry of `permutations3` /
`permutations4` is a permutation of `{0,1,2}` / `{0,1,2,3}` whose recorded sign is its parity, with
no repetitions and 6 / 24 entries -- i.e. the tables list ALL permutations, each with the right
sign. -/
theorem permutation_table :
    (Gen.Chi4.permutations3
      = perms3.map (fun p => ([(p.1 0).val, (p.1 1).val, (p.1 2).val], p.2))) ∧
    (∀ z1 z2 z3 : ℂ, Gen.Chi4.freqTable z1 z2 z3 = [z1, z2, -z3]) ∧
    ((∀ p ∈ Gen.Chi4.permutations3, p.1.Perm [0,1,2] ∧ p.2 = (-1) ^ Bridge.inversions p.1) ∧
      Gen.Chi4.permutations3.Nodup ∧ Gen.Chi4.permutations3.length = 6 ∧
      (∀ p ∈ Gen.Chi4.permutations4, p.1.Perm [0,1,2,3] ∧ p.2 = (-1) ^ Bridge.inversions p.1) ∧
      Gen.Chi4.permutations4.Nodup ∧ Gen.Chi4.permutations4.length = 24) :=
  ⟨Bridge.chi4_perms, Bridge.chi4_freqTable, Bridge.chi4_perms_parity⟩

/-- Antisymmetry under the exchange of the first two operators together with their frequencies:
both the definition and the library's value change sign (`χ_{jikl}(ω₂,ω₁;ω₃) = −χ_{ijkl}(ω₁,ω₂;ω₃)`),
for all matrices and ALL complex frequency triples. -/
theorem exchange_first_pair (d : EigenData ι) (O : Fin 3 → Matrix ι ι ℂ) (X : Matrix ι ι ℂ)
    (z : Fin 3 → ℂ) :
    d.chiDef ![O 1, O 0, O 2] X ![z 1, z 0, z 2] = - d.chiDef O X z ∧
    d.chiLehmann ![O 1, O 0, O 2] X ![z 1, z 0, z 2] = - d.chiLehmann O X z :=
  ⟨chiDef_swap01 d O X z, chiLehmann_swap01 d O X z⟩

/-- Concrete instance: the third entry of the extracted permutation table is the exchange of the
first two operators, with sign −1. -/
example : Gen.Chi4.permutations3[2]? = some ([1, 0, 2], -1) := by
  rw [permutation_table.1]
  rfl

section enumeration
open Pomerol.Model.Chi4Part Pomerol.Spec.Chi4Refine

/-- THE SPARSE ENUMERATION LOSES NOTHING AND ADDS NOTHING.
`TwoParticleGFPart::compute` does not loop over all quadruples of eigenstates: it fixes `index1` and
`index3`, walks the sparse column `index1` of CX4 against the sparse row `index3` of O3 to collect the
common `index4`, then the sparse row `index1` of O1 against the sparse column `index3` of O2 to find the
common `index2` ("index chasing"), and hands `<1|O1|2><2|O2|3><3|O3|4><4|CX4|1>` to `addMultiterm`.
Whenever the four compressed matrices are faithful copies of dense matrices, the enumeration (loop
guards extracted from the source, no weight cut-off) succeeds and, for EVERY weight function `g`, sums
`g · product` over ALL quadruples: no world line with a non-zero product is missed, none is visited
twice.  (`g` = the multi-term of the four levels: `sparse_enumeration_is_ordered_lehmann`.) -/
theorem sparse_enumeration_is_full_sum {n1 n2 n3 n4 : ℕ}
    (A1 : Matrix (Fin n1) (Fin n2) ℂ) (A2 : Matrix (Fin n2) (Fin n3) ℂ)
    (A3 : Matrix (Fin n3) (Fin n4) ℂ) (X4 : Matrix (Fin n4) (Fin n1) ℂ)
    (O1 O2 O3 CX4 : SpMat ℂ) (h1 : RowMajorOf O1 A1) (h2 : ColMajorOf O2 A2)
    (h3 : RowMajorOf O3 A3) (h4 : ColMajorOf CX4 X4) (g : ℕ → ℕ → ℕ → ℕ → ℂ) :
    ∃ wls, computeAsSource (fun _ _ _ _ => true) O1 O2 O3 CX4 = .ok wls ∧
      (wls.map fun wl => g wl.1 wl.2.1 wl.2.2.1 wl.2.2.2.1 * wl.2.2.2.2).sum
        = ∑ i1 : Fin n1, ∑ i2 : Fin n2, ∑ i3 : Fin n3, ∑ i4 : Fin n4,
            g i1 i2 i3 i4 * A1 i1 i2 * A2 i2 i3 * A3 i3 i4 * X4 i4 i1 :=
  chi4part_sum_eq_full_sum A1 A2 A3 X4 O1 O2 O3 CX4 h1 h2 h3 h4 g

/-- WHICH world lines are visited, and each exactly once: for strictly increasing inner indices and
matching outer sizes the enumeration returns exactly the list `worldLinesSpec`, in which no index
quadruple occurs twice. -/
theorem sparse_enumeration_visits_stored_quadruples_once (keep : ℕ → ℕ → ℕ → ℕ → Bool)
    (O1 O2 O3 CX4 : SpMat ℂ) (h1 : SortedMat O1) (h2 : SortedMat O2) (h3 : SortedMat O3)
    (h4 : SortedMat CX4) (hrows1 : O1.length = CX4.length) (hrows3 : O3.length = O2.length) :
    computeAsSource keep O1 O2 O3 CX4 = .ok (worldLinesSpec keep O1 O2 O3 CX4) ∧
    ((worldLinesSpec keep O1 O2 O3 CX4).map quad).Nodup ∧
    ∀ wl, wl ∈ worldLinesSpec keep O1 O2 O3 CX4 ↔
      ∃ i1 i2 i3 i4 v1 v2 v3 v4, (i2, v1) ∈ vec O1 i1 ∧ (i2, v2) ∈ vec O2 i3 ∧ (i4, v3) ∈ vec O3 i3 ∧
        (i4, v4) ∈ vec CX4 i1 ∧ keep i1 i2 i3 i4 = true ∧ wl = (i1, i2, i3, i4, v1 * v2 * v3 * v4) :=
  ⟨chi4part_worldlines_source keep O1 O2 O3 CX4 h1 h2 h3 h4 hrows1 hrows3,
   worldLinesSpec_quad_nodup keep O1 O2 O3 CX4 h1 h3,
   mem_worldLinesSpec_iff keep O1 O2 O3 CX4 h1 h2 h3 h4⟩

/-- With the state space split into blocks and every operator stored block by block, the parts of
all quadruples of blocks add up to `orderedLehmann`, the quantity `ordered_simplex` identifies with the
ordered triple integral. -/
theorem sparse_enumeration_is_ordered_lehmann {B : Type} [Fintype B] {sz : B → ℕ}
    (d : EigenData (Σ b, Fin (sz b)))
    (A Bm Cc X : Matrix (Σ b, Fin (sz b)) (Σ b, Fin (sz b)) ℂ) (O1 O2 O3 CX4 : B → B → SpMat ℂ)
    (h1 : ∀ b b', RowMajorOf (O1 b b') (blockOf A b b'))
    (h2 : ∀ b b', ColMajorOf (O2 b b') (blockOf Bm b b'))
    (h3 : ∀ b b', RowMajorOf (O3 b b') (blockOf Cc b b'))
    (h4 : ∀ b b', ColMajorOf (CX4 b b') (blockOf X b b')) (za zb zc : ℂ) :
    ∑ b1, ∑ b2, ∑ b3, ∑ b4,
        partValue d za zb zc b1 b2 b3 b4 (O1 b1 b2) (O2 b2 b3) (O3 b3 b4) (CX4 b4 b1)
      = d.orderedLehmann A Bm Cc X za zb zc :=
  parts_enumeration_refines_ordered_lehmann d A Bm Cc X O1 O2 O3 CX4 h1 h2 h3 h4 za zb zc

/-! a concrete instance with 2 states per block: `O1 = [[1,2],[0,3]]`, `O2 = [[5,7],[0,11]]`,
`O3 = [[0,13],[17,19]]`, `CX4 = [[23,0],[29,31]]`; 6 of the 16 quadruples have all four entries stored -/

private def exO1 : SpMat ℂ := [[(0, 1), (1, 2)], [(1, 3)]]          -- rows of O1
private def exO2 : SpMat ℂ := [[(0, 5)], [(0, 7), (1, 11)]]         -- columns of O2
private def exO3 : SpMat ℂ := [[(1, 13)], [(0, 17), (1, 19)]]       -- rows of O3
private def exX4 : SpMat ℂ := [[(0, 23), (1, 29)], [(1, 31)]]       -- columns of CX4
private def exA1 : Matrix (Fin 2) (Fin 2) ℂ := fun i j => ![![1, 2], ![0, 3]] i j
private def exA2 : Matrix (Fin 2) (Fin 2) ℂ := fun i j => ![![5, 7], ![0, 11]] i j
private def exA3 : Matrix (Fin 2) (Fin 2) ℂ := fun i j => ![![0, 13], ![17, 19]] i j
private def exAX : Matrix (Fin 2) (Fin 2) ℂ := fun i j => ![![23, 0], ![29, 31]] i j

private theorem ex_h1 : RowMajorOf exO1 exA1 :=
  ⟨rfl, by decide, by decide, fun i j => by fin_cases i <;> fin_cases j <;> rfl⟩

private theorem ex_h2 : ColMajorOf exO2 exA2 :=
  ⟨rfl, by decide, by decide, fun i j => by fin_cases i <;> fin_cases j <;> rfl⟩

private theorem ex_h3 : RowMajorOf exO3 exA3 :=
  ⟨rfl, by decide, by decide, fun i j => by fin_cases i <;> fin_cases j <;> rfl⟩

private theorem ex_h4 : ColMajorOf exX4 exAX :=
  ⟨rfl, by decide, by decide, fun i j => by fin_cases i <;> fin_cases j <;> rfl⟩

/-- NON-VACUITY: the hypotheses of `sparse_enumeration_is_full_sum` hold for this instance, and its
conclusion with `g = 1` is the trace of the product of the four matrices: the sum of the products over
the visited world lines is 48640 = 1885 + 2737 + 3857 + 8602 + 12122 + 19437. -/
example : ∃ wls, computeAsSource (fun _ _ _ _ => true) exO1 exO2 exO3 exX4 = .ok wls ∧
    (wls.map fun wl => wl.2.2.2.2).sum = 48640 := by
  obtain ⟨wls, hw, hs⟩ := sparse_enumeration_is_full_sum exA1 exA2 exA3 exAX exO1 exO2 exO3 exX4
    ex_h1 ex_h2 ex_h3 ex_h4 (fun _ _ _ _ => 1)
  refine ⟨wls, hw, ?_⟩
  simp only [one_mul] at hs
  rw [hs]
  simp [Fin.sum_univ_two, exA1, exA2, exA3, exAX]
  norm_num

/-- the same instance over the integers, where the model can be run by the kernel: the six visited world
lines, in the order of the source -/
example : computeAsSource (K := ℤ) (fun _ _ _ _ => true) [[(0, 1), (1, 2)], [(1, 3)]]
    [[(0, 5)], [(0, 7), (1, 11)]] [[(1, 13)], [(0, 17), (1, 19)]] [[(0, 23), (1, 29)], [(1, 31)]]
    = .ok [(0, 0, 0, 1, 1885), (0, 0, 1, 0, 2737), (0, 0, 1, 1, 3857), (0, 1, 1, 0, 8602),
      (0, 1, 1, 1, 12122), (1, 1, 1, 1, 19437)] := by
  decide

end enumeration

/-! ### the world-stripe selection of `TwoParticleGF::prepare`

`sparse_enumeration_is_ordered_lehmann` sums over ALL quadruples of blocks.  The library does not create
a part for every quadruple: `TwoParticleGF::prepare` runs over the pairs of CX4's block bimap and the six
permutations and follows the block maps of the other three operators (`getRightIndex`, `getLeftIndex`);
a part is created only when the chain of blocks closes.  `Model/Chi4Prepare.lean` models that loop,
`Spec/Chi4PrepareSpec.lean` proves that it selects exactly the closing chains, each once, and that the
selected parts carry the whole sum. -/

section selection
open Pomerol.Model.Chi4Prepare Pomerol.Spec.Chi4PrepareSpec Pomerol.Spec.Chi4Refine
open Pomerol.Model.Chi4Part (SpMat)

/-- THE WORLD-STRIPE SELECTION IS COMPLETE AND CREATES NO PART TWICE.
Every field operator maps a block of the Hamiltonian to at most one block; the library records these maps
as bimaps of `(LeftIndex, RightIndex)` pairs.  For each of the six orderings `p` of the first three
operators and each pair `<b3|CX4|b0>` of CX4's bimap `prepare` computes `b1` as the right partner of `b0`
under the operator at position 0, `b2` as the left partner of `b3` under the operator at position 2, and
creates a part when the operator at position 1 maps `b1` to `b2`.  If the bimaps are what the bimap type
guarantees (`IsBimap`; for CX4 only the right side is needed), no closing chain with a retained block is
missed, none is selected twice, nothing else is selected.  (`O_{p,k}` = operator number
`permutations3[p].perm[k]`: `0 ↦ C1`, `1 ↦ C2`, `2 ↦ CX3`.) -/
theorem world_stripes_complete (retained : ℕ → Bool) (c1 c2 cx3 cx4 : BlockMap)
    (h1 : IsBimap c1) (h2 : IsBimap c2) (h3 : IsBimap cx3) (h4 : RightUnique cx4) :
    (prepare retained c1 c2 cx3 cx4).Nodup ∧
    ∀ p b0 b1 b2 b3, (p, b0, b1, b2, b3) ∈ prepare retained c1 c2 cx3 cx4 ↔
      p < 6 ∧ (b0, b1) ∈ opAt c1 c2 cx3 (permAt p 0) ∧ (b1, b2) ∈ opAt c1 c2 cx3 (permAt p 1) ∧
        (b2, b3) ∈ opAt c1 c2 cx3 (permAt p 2) ∧ (b3, b0) ∈ cx4 ∧
        (retained b0 = true ∨ retained b1 = true ∨ retained b2 = true ∨ retained b3 = true) :=
  stripes_selected_exactly retained c1 c2 cx3 cx4 h1 h2 h3 h4

/-- the single-orbital case: blocks `0` (empty) and `1` (occupied); `c` maps `1 → 0` (`<0|c|1>`), `c†`
maps `0 → 1` (`<1|c†|0>`).  Of the six orderings only `c c† c c†`-type chains close: `p = 1`
(`C1, CX3, C2`) and `p = 3` (`C2, CX3, C1`), both through the blocks `0, 1, 0, 1` -/
example : prepare (fun _ => true) [(0, 1)] [(0, 1)] [(1, 0)] [(1, 0)]
    = [(1, 0, 1, 0, 1), (3, 0, 1, 0, 1)] := by decide

/-- truncation: with only block `5` retained nothing is created -/
example : prepare (fun b => b == 5) [(0, 1)] [(0, 1)] [(1, 0)] [(1, 0)] = [] := by decide

/-- THE PARTS CREATED BY `TwoParticleGF::prepare` COMPUTE THE TWO-PARTICLE GREEN'S FUNCTION.
`O 0, O 1, O 2, X` the matrices of `C1, C2, CX3, CX4`; `bm k` / `cx4` their block bimaps, which list (at
least) every block where the matrix is not zero; every block stored in compressed form; nothing
truncated.  Parts are created as `prepare` does, every part enumerates its world lines as
`TwoParticleGFPart::compute` does.  Then the parts selected for an ordering `p` add up to
`orderedLehmann` (the block quadruples that get no part contribute nothing); the signed sum over all
parts is `d.chiLehmann O X z`, at fermionic frequencies the definition `d.chiDef O X z`. -/
theorem selected_stripes_compute_chi {nB : ℕ} {sz : Fin nB → ℕ} (d : EigenData (GFRefine.Basis sz))
    (O : Fin 3 → Matrix (GFRefine.Basis sz) (GFRefine.Basis sz) ℂ)
    (X : Matrix (GFRefine.Basis sz) (GFRefine.Basis sz) ℂ) (z : Fin 3 → ℂ)
    (R C : Fin 3 → Fin nB → Fin nB → SpMat ℂ) (CX : Fin nB → Fin nB → SpMat ℂ)
    (hR : ∀ k b b', RowMajorOf (R k b b') (blockOf (O k) b b'))
    (hC : ∀ k b b', ColMajorOf (C k b b') (blockOf (O k) b b'))
    (hX : ∀ b b', ColMajorOf (CX b b') (blockOf X b b'))
    (bm : Fin 3 → BlockMap) (cx4 : BlockMap) (hbm : ∀ k, IsBimap (bm k)) (h4 : RightUnique cx4)
    (hO : ∀ k, GFRefine.CoversBlocks (bm k) (O k)) (hX4 : GFRefine.CoversBlocks cx4 X) :
    (∀ p : Fin 6,
      ((stripesOf p.1 (prepare (fun _ => true) (bm 0) (bm 1) (bm 2) cx4)).map
          (stripeValue d z R C CX)).sum
        = d.orderedLehmann (O (permFn p 0)) (O (permFn p 1)) (O (permFn p 2)) X
            (z (permFn p 0)) (z (permFn p 1)) (z (permFn p 2))) ∧
    ((prepare (fun _ => true) (bm 0) (bm 1) (bm 2) cx4).map fun s =>
        ((permEntry s.1).2 : ℂ) * stripeValue d z R C CX s).sum = d.chiLehmann O X z ∧
    ((∀ k, Complex.exp ((d.β:ℂ) * z k) = -1) →
      ((prepare (fun _ => true) (bm 0) (bm 1) (bm 2) cx4).map fun s =>
        ((permEntry s.1).2 : ℂ) * stripeValue d z R C CX s).sum = d.chiDef O X z) := by
  have hchi := selected_stripes_sum_to_chi d O X z R C CX bm cx4 ⟨hR, hC, hX, hbm, h4, hO, hX4⟩
  refine ⟨fun p => ?_, hchi, fun hz => by rw [hchi, chi_lehmann d O X z hz]⟩
  obtain ⟨e1, e2⟩ := selected_stripes_sum_to_ordered_lehmann d O X z R C CX bm cx4
    ⟨hR, hC, hX, hbm, h4, hO, hX4⟩ p
  rw [e1, e2]

section SelectionExample
open GFRefine (Basis CoversBlocks)

/-- two blocks with one state each (one orbital: empty / occupied) -/
private def sz2 : Fin 2 → ℕ := fun _ => 1
private def exC : Matrix (Basis sz2) (Basis sz2) ℂ := fun a b => if a.1 = 0 ∧ b.1 = 1 then 1 else 0
private def exCX : Matrix (Basis sz2) (Basis sz2) ℂ := fun a b => if a.1 = 1 ∧ b.1 = 0 then 1 else 0
private def exO : Fin 3 → Matrix (Basis sz2) (Basis sz2) ℂ := ![exC, exC, exCX]
private def exBm : Fin 3 → BlockMap := ![[(0, 1)], [(0, 1)], [(1, 0)]]

private theorem exC_covers : CoversBlocks [(0, 1)] exC :=
  GFRefine.coversBlocks_single 0 1 1

private theorem exCX_covers : CoversBlocks [(1, 0)] exCX :=
  GFRefine.coversBlocks_single 1 0 1

/-- all hypotheses hold for the one-orbital system (levels `0`, `1`, `β = 1`) with every block stored
entry by entry (`storeRows`): the two parts created (see the `example` after `world_stripes_complete`)
compute `χ` of this system -/
example (z : Fin 3 → ℂ) :
    ((prepare (fun _ => true) [(0, 1)] [(0, 1)] [(1, 0)] [(1, 0)]).map fun s =>
        ((permEntry s.1).2 : ℂ) * stripeValue
          (⟨1, one_pos, fun x => (x.1.1 : ℝ)⟩ : EigenData (Basis sz2)) z
          (fun k b b' => storeRows (fun _ => true) (blockOf (exO k) b b'))
          (fun k b b' => storeRows (fun _ => true) (blockOf (exO k) b b')ᵀ)
          (fun b b' => storeRows (fun _ => true) (blockOf exCX b b')ᵀ) s).sum
      = EigenData.chiLehmann (⟨1, one_pos, fun x => (x.1.1 : ℝ)⟩ : EigenData (Basis sz2))
          exO exCX z :=
  (selected_stripes_compute_chi _ exO exCX z _ _ _
    (fun k b b' => storeRows_rowMajorOf _ (fun _ h => by simp at h) _)
    (fun k b b' => storeRows_colMajorOf _ (fun _ h => by simp at h) _)
    (fun b b' => storeRows_colMajorOf _ (fun _ h => by simp at h) _)
    exBm [(1, 0)] (by intro k; fin_cases k <;> decide) (by decide)
    (by intro k; fin_cases k <;> first | exact exC_covers | exact exCX_covers) exCX_covers).2.1

end SelectionExample

end selection

section termOrder

/-! ### The ordering of the term lists is not a strict weak ordering (root cause of finding F16)

`TwoParticleGFPart` keeps its terms in `std::set<Term, Compare>`.  `Gen.Chi4.termLess` is
`Compare::operator()` as EXTRACTED from the source: lexicographic on the three poles, where two poles
closer than the tolerance count as equal.  `std::set` requires the induced equivalence (`neither is less`)
to be transitive.  It is not, for poles that differ by a fraction of the tolerance: this is what happens on
spectra with near-degenerate levels (finding F16; the reproduction is run against the real library by the
checks of C02 and C06). -/

/-- the equivalence `std::set` derives from the extracted comparator (instantiated at ℚ, tolerance = the
extracted 1e-8) -/
def termEquiv (f1 : Bool) (p : ℚ × ℚ × ℚ) (f2 : Bool) (q : ℚ × ℚ × ℚ) : Bool :=
  !Gen.Chi4.termLess f1 p.1 p.2.1 p.2.2 f2 q.1 q.2.1 q.2.2 (Gen.Chi4.tolCompareNonRes : ℚ) &&
  !Gen.Chi4.termLess f2 q.1 q.2.1 q.2.2 f1 p.1 p.2.1 p.2.2 (Gen.Chi4.tolCompareNonRes : ℚ)

/-- Three terms whose third poles are 0, 0.6·10⁻⁸ and 1.2·10⁻⁸: the first is equivalent to the second, the
second to the third, but the first is NOT equivalent to the third -- the comparator the term lists are
ordered by is not a strict weak ordering, so `find`, `insert` and the re-insertion after an MPI broadcast
may merge or lose terms depending on the order in which they arrive. -/
theorem term_order_not_strict_weak :
    termEquiv false (0, 0, 0) false (0, 0, 6 / 10 ^ 9) = true ∧
    termEquiv false (0, 0, 6 / 10 ^ 9) false (0, 0, 12 / 10 ^ 9) = true ∧
    termEquiv false (0, 0, 0) false (0, 0, 12 / 10 ^ 9) = false := by
  decide +kernel

/-- the same for the first pole, where the comparator falls through to the next component -/
theorem term_order_not_strict_weak_first_pole :
    termEquiv true (0, 5, 0) true (6 / 10 ^ 9, 5, 0) = true ∧
    termEquiv true (6 / 10 ^ 9, 5, 0) true (12 / 10 ^ 9, 5, 0) = true ∧
    termEquiv true (0, 5, 0) true (12 / 10 ^ 9, 5, 0) = false := by
  decide +kernel

end termOrder

end Pomerol.Properties.C02
