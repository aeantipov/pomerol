/-
  Property C16, dedicated-master use: the job dispatcher runs every job exactly once and always
  terminates when rank 0 only dispatches (`MPIMaster(comm, jobs, include_boss = false)`, the usage
  pattern of test/mpi_dispatcher_test_nomaster.cpp).

  Model: `Model/DispatcherDedicated.lean` (transition system of the loop
  `for (; !master.is_finished();) { master.order(); master.check_workers(); }` on rank 0 and of the
  `MPIWorker` loop on the other ranks; a step = one rank performs its next `request::test()` with a
  given outcome).  The master's loop condition `is_finished()` and the condition of the Finish phase
  are the definitions generated from the C++ source (`Generated/Disp.lean`); the loop of `order()` is
  the hand-written `Disp.orderLoop`, whose condition `orderCondition_matches_orderLoop` compares with
  the generated one.  The theorems quantify over every number of workers `N ≥ 1` (the
  constructor throws for an empty pool), every job list without repetitions (including the empty one
  and lists shorter than the number of workers), and every schedule -- every interleaving of the
  ranks and every delay of message visibility.  The inductive invariant and its proof are in
  `Spec/DispatcherDedicatedInv.lean` and, for the worker pool, `Spec/DispatcherPool.lean`.  Several
  consecutive rounds on one communicator are independent because a finished round leaves no message
  behind (`dedicated_no_leaked_messages`).
-/
import PomerolModel.Spec.DispatcherDedicatedInv

namespace Pomerol.Properties.C16
open Pomerol.Model.DispD Pomerol.Spec.DispD Pomerol.Spec.Sched
open Pomerol.Model.Disp (dmapGet)

/-- In every reachable state no job has been executed twice, and only jobs of this round, on workers
of the pool, have been executed. -/
theorem dedicated_every_job_at_most_once (N : Nat) (jobs : List Nat) (hN : 0 < N) (hnd : jobs.Nodup)
    (s : SysD) (h : Reachable N jobs s) :
    (s.log.map (·.1)).Nodup ∧ ∀ x ∈ s.log, x.1 ∈ jobs ∧ x.2 < N :=
  (reachable_pool N jobs hN hnd s h).at_most_once

/-- Once the master and every worker have left their loops each job of the round has been executed
exactly once. -/
theorem dedicated_every_job_exactly_once_at_exit (N : Nat) (jobs : List Nat) (hN : 0 < N)
    (hnd : jobs.Nodup) (s : SysD) (h : Reachable N jobs s) (hf : allExited s = true) :
    ∀ j ∈ jobs, (s.log.filter (·.1 = j)).length = 1 :=
  (reachable_pool N jobs hN hnd s h).once_at_exit hN (all_exited hf)

/-- The job-to-worker map (the same object is broadcast to all ranks) names, for every executed job,
the worker that actually ran it; at exit it is defined exactly on the jobs of the round. -/
theorem dedicated_map_names_executing_rank (N : Nat) (jobs : List Nat) (hN : 0 < N) (hnd : jobs.Nodup)
    (s : SysD) (h : Reachable N jobs s) :
    (∀ x ∈ s.log, dmapGet s.m.dmap x.1 = some x.2) ∧
    (allExited s = true → ∀ j, (dmapGet s.m.dmap j).isSome ↔ j ∈ jobs) :=
  ⟨(reachable_pool N jobs hN hnd s h).dmap_truth hnd,
    fun hf => ((reachable_pool N jobs hN hnd s h).final hN (all_exited hf)).2.1⟩

/-- A finished round leaves no message in any channel and no active receive: consecutive rounds on
the same communicator do not interfere. -/
theorem dedicated_no_leaked_messages (N : Nat) (jobs : List Nat) (hN : 0 < N) (hnd : jobs.Nodup)
    (s : SysD) (h : Reachable N jobs s) (hf : allExited s = true) :
    (∀ d ∈ s.down, d = []) ∧ (∀ u ∈ s.up, u = 0) ∧ (∀ w ∈ s.m.wait, w = false) :=
  ((reachable_pool N jobs hN hnd s h).final hN (all_exited hf)).2.2

/-- No deadlock: from every reachable state the round can be completed (the master and every worker
leave their loops). -/
theorem dedicated_no_deadlock (N : Nat) (jobs : List Nat) (hN : 0 < N) (hnd : jobs.Nodup) (s : SysD)
    (h : Reachable N jobs s) : ∃ sched s', run s sched = some s' ∧ allExited s' = true := by
  -- the master finishes its loop iteration; from the top of the loop `progress` applies until everybody has left
  obtain ⟨s1, hr1, hi1, hn1, _⟩ := to_next0 N jobs hN hnd s (reachable_inv N jobs hN hnd s h)
  exact exists_run_done reach_iff (progress N jobs hN hnd) s1 hi1 hn1 s hr1

set_option linter.unusedVariables false in
/-- Termination measure: no step increases it and every reception of a message strictly decreases
it, so every execution contains only finitely many receptions; together with `dedicated_no_deadlock`
and the MPI progress assumption (a sent message is eventually seen) every rank leaves its loop. -/
theorem dedicated_finitely_many_receptions (N : Nat) (jobs : List Nat) (hN : 0 < N) (hnd : jobs.Nodup)
    (s s' : SysD) (r : Nat) (b : Bool) (h : Reachable N jobs s) (hs : step s r b = some s') :
    measure s' ≤ measure s ∧ (b = true → measure s' < measure s) :=
  measure_step s s' r b hs

/-- The master leaves its loop (`is_finished()` as the source has it) only after `Finish` has been
sent to every worker.  This is the statement that fails when `is_finished()` is replaced by "no jobs
left and all workers idle": in a round without jobs that condition already holds when the loop
condition is evaluated for the first time, the master would leave before `check_workers()` has
sent any `Finish`, and the workers would wait forever. -/
theorem dedicated_master_exit_after_finish (N : Nat) (jobs : List Nat) (hN : 0 < N) (hnd : jobs.Nodup)
    (s : SysD) (h : Reachable N jobs s) (hx : s.m.exited = true) :
    ∀ i, i < N → s.m.fin.getD i false = true := by
  -- `Inv`: the flags are constantly the master's `exited`
  obtain ⟨_, hfin, _⟩ := reachable_inv N jobs hN hnd s h
  intro i hi
  rw [hfin, hx, List.getD_eq_getElem?_getD, List.getElem?_replicate, if_pos hi]
  rfl

/-- Non-vacuity: a concrete round (master + 2 workers, 3 jobs) under a concrete schedule with delays
reaches a final state in which the hypotheses of the theorems above hold (rank 0 is the master, rank
`r > 0` the worker with pool index `r - 1`). -/
example : (run (init 2 [0, 1, 2]) [(1, false), (1, true), (0, false), (0, false), (0, true), (2, true),
    (0, true), (0, false), (2, false), (2, true), (0, false), (0, false), (0, true), (1, true),
    (2, false), (2, true)]).map
      (fun s => (allExited s, s.log)) = some (true, [(0, 0), (1, 1), (2, 1)]) := by
  decide

/-- Non-vacuity, a round with NO jobs: the master has not left its loop in the initial state (no
`Finish` has been sent yet), and a concrete schedule with delays completes the round. -/
example : (init 2 []).m.exited = false ∧
    (run (init 2 []) [(1, false), (0, false), (2, false), (0, false), (1, true), (2, true)]).map
      (fun s => (allExited s, s.log)) = some (true, []) := by
  decide

end Pomerol.Properties.C16
