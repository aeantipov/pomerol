/-
  Property C06, in two parts.

  The first: the split of the processes into colours in `TwoParticleGFContainer::computeAll_split`
  is sound for EVERY number of processes `size ≥ 1` and EVERY number of components `ncomp ≥ 1`.
  Model: `Model/Parallel.lean` (who computes what, who sends, who holds the reduced table, which
  collective calls every rank issues on which communicator); the arithmetic (`ncolors`, `procColor`,
  `elemColor`) and three control-flow flags (`rootIsFirst`, `marksPartsComputed`,
  `skelBarrierOnOwnComm`) are extracted from the C++ source into `Generated/SplitFormulas.lean`.
  These three flags are used only by unfolding: if the source changes them the proofs below break.
  After these theorems, the two regressions (last process of a colour as root, inner barrier on
  MPI_COMM_WORLD) on local copies of the definitions with the flag flipped.

  The second (section `Collect`): what the callers of `mpi_skel::run` do with the returned job-to-rank map, the
  broadcast of every part from `job_map[p]` and the reduction of the frequency tables onto rank 0.  Model
  `Model/Collect.lean`, proofs `Spec/CollectProps.lean`; `distributed_step_refines_serial` composes them with the
  dispatcher model, and the `example`s are worked instances.  The other three flags of `Generated/SplitFormulas.lean`
  (`hamiltonianBroadcastsFromOwner`, `twoParticleReducesToRootAndBroadcastsFromOwner`,
  `tableLoopCoversAllFrequencies`) say that the source has the shape `Model/Collect.lean` assumes.  No definition
  of the model uses them; `source_collective_pattern` and `source_table_loop` at the end only record them, and for
  these it is the translator (which fails when the code no longer has that shape), not Lean, that is the check.

  What the jobs inside one colour do (every job exactly once, termination under every schedule) is
  the subject of C16 (`Properties/C16.lean`, `Spec/DispatcherInv.lean`); here one `mpi_skel::run` is
  a single collective call `Coll.colourDispatch` on the colour communicator.
-/
import PomerolModel.Model.Parallel
import PomerolModel.Spec.CollectProps

namespace Pomerol.Properties.C06
open Pomerol.Gen.Split Pomerol.Model.Par

private theorem scaled_lt (n k x : Nat) (hn : 0 < n) (hk : 0 < k) (hx : x < n) : x * k / n < k := by
  rw [Nat.div_lt_iff_lt_mul hn, Nat.mul_comm k n]
  exact Nat.mul_lt_mul_of_lt_of_le hx (Nat.le_refl k) hk

/-- every value `c < k` is taken by `x ↦ x * k / n` on `x < n` provided `k ≤ n` (take `x = ceil (c * n / k)`) -/
private theorem scaled_surj (n k c : Nat) (hk : 0 < k) (hkn : k ≤ n) (hc : c < k) :
    ∃ x, x < n ∧ x * k / n = c := by
  have h1 : k * ((c * n + k - 1) / k) + (c * n + k - 1) % k = c * n + k - 1 := Nat.div_add_mod _ _
  have h2 : (c * n + k - 1) % k < k := Nat.mod_lt _ hk
  generalize (c * n + k - 1) / k = x at h1
  generalize (c * n + k - 1) % k = m at h1 h2
  have key : c * n ≤ k * x ∧ k * x < c * n + n := by omega
  have h3 : c * n + n ≤ k * n := Nat.succ_mul c n ▸ Nat.mul_le_mul_right n hc
  refine ⟨x, Nat.lt_of_mul_lt_mul_left (Nat.lt_of_lt_of_le key.2 h3), ?_⟩
  rw [Nat.mul_comm x k]
  exact Nat.div_eq_of_lt_le key.1 (Nat.succ_mul c n ▸ key.2)

private theorem ncolors_pos (size ncomp : Nat) (hs : 0 < size) (hc : 0 < ncomp) :
    0 < ncolors size ncomp := by
  unfold ncolors; omega

private theorem ncolors_le_size (size ncomp : Nat) : ncolors size ncomp ≤ size := by
  unfold ncolors; omega

private theorem ncolors_le_ncomp (size ncomp : Nat) : ncolors size ncomp ≤ ncomp := by
  unfold ncolors; omega

/-- every process gets a valid colour -/
theorem colours_valid (size ncomp p : Nat) (hs : 0 < size) (hc : 0 < ncomp) (hp : p < size) :
    procColor size ncomp p < ncolors size ncomp :=
  scaled_lt size _ p hs (ncolors_pos size ncomp hs hc) hp

/-- every colour is used by at least one process -/
theorem colours_cover (size ncomp c : Nat) (hs : 0 < size) (hc : 0 < ncomp)
    (hcol : c < ncolors size ncomp) : ∃ p, p < size ∧ procColor size ncomp p = c :=
  scaled_surj size _ c (ncolors_pos size ncomp hs hc) (ncolors_le_size size ncomp) hcol

/-- every component gets a valid colour -/
theorem component_colour_valid (size ncomp i : Nat) (hs : 0 < size) (hc : 0 < ncomp)
    (hi : i < ncomp) : elemColor size ncomp i < ncolors size ncomp :=
  scaled_lt ncomp _ i hc (ncolors_pos size ncomp hs hc) hi

/-- every colour has at least one component -/
theorem component_colours_cover (size ncomp c : Nat) (hs : 0 < size) (hc : 0 < ncomp)
    (hcol : c < ncolors size ncomp) : ∃ i, i < ncomp ∧ elemColor size ncomp i = c :=
  scaled_surj ncomp _ c (ncolors_pos size ncomp hs hc) (ncolors_le_ncomp size ncomp) hcol

private theorem computes_iff (size ncomp p i : Nat) :
    computes size ncomp p i = true ↔ elemColor size ncomp i = procColor size ncomp p := by
  simp [computes]

/-- each component is computed by the processes of exactly one colour, and that set is not empty -/
theorem component_computed_by_one_colour (size ncomp i : Nat) (hs : 0 < size) (hc : 0 < ncomp)
    (hi : i < ncomp) :
    (∃ p, p < size ∧ computes size ncomp p i = true) ∧
    (∀ p q, computes size ncomp p i = true → computes size ncomp q i = true →
      procColor size ncomp p = procColor size ncomp q) := by
  constructor
  · obtain ⟨p, hp, hpc⟩ := colours_cover size ncomp _ hs hc (component_colour_valid size ncomp i hs hc hi)
    exact ⟨p, hp, (computes_iff size ncomp p i).2 hpc.symm⟩
  · intro p q hp hq
    rw [computes_iff] at hp hq
    rw [← hp, ← hq]

/-- the root of a colour is the head of the list of its processes (this is where `rootIsFirst` is used) -/
private theorem colorRoot_eq_tableHolder (size ncomp c : Nat) :
    colorRoot size ncomp c = tableHolder size ncomp c := by
  simp [colorRoot, tableHolder, rootIsFirst]

private theorem tableHolder_some (size ncomp c : Nat) (hs : 0 < size) (hc : 0 < ncomp)
    (hcol : c < ncolors size ncomp) :
    ∃ r, tableHolder size ncomp c = some r ∧ r < size ∧ procColor size ncomp r = c := by
  obtain ⟨p, hp, hpc⟩ := colours_cover size ncomp c hs hc hcol
  rw [tableHolder, List.head?_filter]
  cases hr : (List.range size).find? fun p => decide (procColor size ncomp p = c) with
  | none => exact absurd hpc (by simpa using List.find?_eq_none.1 hr p (List.mem_range.2 hp))
  | some r => exact ⟨r, rfl, List.mem_range.1 (List.mem_of_find?_eq_some hr), by simpa using List.find?_some hr⟩

/-- the sender of a component belongs to the colour that computed it AND is the process that holds
the reduced table -/
theorem sender_holds_the_table (size ncomp i : Nat) (hs : 0 < size) (hc : 0 < ncomp) (hi : i < ncomp) :
    ∃ r, colorRoot size ncomp (elemColor size ncomp i) = some r ∧ r < size ∧
      computes size ncomp r i = true ∧ tableHolder size ncomp (elemColor size ncomp i) = some r := by
  obtain ⟨r, hr, hrs, hrc⟩ :=
    tableHolder_some size ncomp _ hs hc (component_colour_valid size ncomp i hs hc hi)
  exact ⟨r, by rw [colorRoot_eq_tableHolder]; exact hr, hrs,
    (computes_iff size ncomp r i).2 hrc.symm, hr⟩

/-- the frequency table of every component arrives with the broadcast -/
theorem tables_delivered (size ncomp i : Nat) (hs : 0 < size) (hc : 0 < ncomp) (hi : i < ncomp) :
    tableDelivered size ncomp i = true := by
  obtain ⟨r, h1, _, _, h2⟩ := sender_holds_the_table size ncomp i hs hc hi
  simp [tableDelivered, h1, h2]

/-- every component can be evaluated on every process after the distribution phase -/
theorem evaluable_everywhere (size ncomp p i : Nat) : evaluableOn size ncomp p i = true := by
  simp [evaluableOn, marksPartsComputed]

/-- the calls of `mpi_skel::run` are all on the colour communicator (this is where
`skelBarrierOnOwnComm` is used) -/
private theorem worldCalls_skel (col : Nat) (l : List Nat) :
    worldCalls (l.flatMap (skelCalls col)) = [] := by
  rw [worldCalls, List.filter_flatMap, List.flatMap_eq_nil_iff]
  intro a _
  simp [skelCalls, skelBarrierOnOwnComm]

private theorem worldCalls_sequence (size ncomp p : Nat) :
    worldCalls (collectiveSequence size ncomp p) =
      [Coll.worldBarrier, Coll.worldSplit] ++ [Coll.worldBarrier]
      ++ worldCalls ((List.range ncomp).map
          (fun i => Coll.worldBcast ((colorRoot size ncomp (elemColor size ncomp i)).getD 0) i))
      ++ [Coll.worldBarrier] := by
  have h := worldCalls_skel (procColor size ncomp p) ((List.range ncomp).filter (computes size ncomp p))
  unfold collectiveSequence
  unfold worldCalls at h ⊢
  rw [List.filter_append, List.filter_append, List.filter_append, List.filter_append, h]
  rfl

/-- COLLECTIVES MATCH on the world communicator: all processes issue the same sequence of collective
calls on MPI_COMM_WORLD -/
theorem world_collectives_match (size ncomp p q : Nat) (_hs : 0 < size) (_hc : 0 < ncomp)
    (_hp : p < size) (_hq : q < size) :
    worldCalls (collectiveSequence size ncomp p) = worldCalls (collectiveSequence size ncomp q) := by
  rw [worldCalls_sequence, worldCalls_sequence]

/-- COLLECTIVES MATCH on a colour communicator: all processes of one colour issue the same sequence
of collective calls on the communicator of that colour -/
theorem colour_collectives_match (size ncomp p q : Nat)
    (hpq : procColor size ncomp p = procColor size ncomp q) :
    colourCalls (procColor size ncomp p) (collectiveSequence size ncomp p) =
    colourCalls (procColor size ncomp p) (collectiveSequence size ncomp q) := by
  have hcomp : computes size ncomp p = computes size ncomp q := by
    funext i; simp [computes, hpq]
  unfold collectiveSequence
  rw [hcomp, hpq]

/-! Regressions: the old behaviour, on local copies of the definitions with the flag flipped. -/

/-- OLD: the root of a colour is its LAST process -/
def colorRootLast (size ncomp c : Nat) : Option Nat :=
  ((List.range size).filter fun p => procColor size ncomp p = c).getLast?

/-- `tableDelivered` with the old root -/
def tableDeliveredLast (size ncomp i : Nat) : Bool :=
  colorRootLast size ncomp (elemColor size ncomp i) = tableHolder size ncomp (elemColor size ncomp i) &&
  (colorRootLast size ncomp (elemColor size ncomp i)).isSome

/-- OLD: the inner barrier of `mpi_skel::run` is on MPI_COMM_WORLD -/
def skelCallsWorldBarrier (col comp : Nat) : List Coll :=
  [Coll.colourDispatch col comp, Coll.worldBarrier]

/-- `collectiveSequence` with the old `mpi_skel::run` -/
def collectiveSequenceWorldBarrier (size ncomp p : Nat) : List Coll :=
  [Coll.worldBarrier, Coll.worldSplit]
  ++ ((List.range ncomp).filter (computes size ncomp p)).flatMap
      (skelCallsWorldBarrier (procColor size ncomp p))
  ++ [Coll.worldBarrier]
  ++ (List.range ncomp).map
      (fun i => Coll.worldBcast ((colorRoot size ncomp (elemColor size ncomp i)).getD 0) i)
  ++ [Coll.worldBarrier]

/-- `colorRootLast` is the body of `Par.colorRoot` with `rootIsFirst` replaced by `false`.  The like for
`skelCallsWorldBarrier` (`Par.skelCalls` with `skelBarrierOnOwnComm` replaced by `false`) is not stated; it is
read off the two definitions. -/
theorem colorRootLast_is_flipped (size ncomp c : Nat) :
    colorRootLast size ncomp c =
      (let ps := (List.range size).filter fun p => procColor size ncomp p = c
       if false then ps.head? else ps.getLast?) := rfl

/-- REGRESSION: with the last process of a colour as root, for 4 processes / 2 components the sender
of component 0 (process 1) is not the holder of its table (process 0): the table is not delivered -/
theorem last_root_loses_table :
    colorRootLast 4 2 (elemColor 4 2 0) = some 1 ∧ tableHolder 4 2 (elemColor 4 2 0) = some 0 ∧
    tableDeliveredLast 4 2 0 = false ∧ tableDelivered 4 2 0 = true := by
  decide

/-- REGRESSION: with the inner barrier on MPI_COMM_WORLD, for 2 processes / 3 components the two
processes issue world sequences of different length (process 0 computes two components, process 1
one): a hang.  With the present code they agree. -/
theorem world_barrier_mismatch :
    worldCalls (collectiveSequenceWorldBarrier 2 3 0) ≠ worldCalls (collectiveSequenceWorldBarrier 2 3 1) ∧
    (worldCalls (collectiveSequenceWorldBarrier 2 3 0)).length = 9 ∧
    (worldCalls (collectiveSequenceWorldBarrier 2 3 1)).length = 8 ∧
    worldCalls (collectiveSequence 2 3 0) = worldCalls (collectiveSequence 2 3 1) := by
  decide

/-! ### after the dispatch: what the callers do with the job-to-rank map

Model `Model/Collect.lean`, proofs `Spec/CollectProps.lean`.  `Hamiltonian::prepare`, `Hamiltonian::compute`
and `TwoParticleGF::compute` run `mpi_skel::run` and then (a) broadcast the data of every part from the rank
`job_map[p]` and (b) (`TwoParticleGF::compute`) sum the rank-local frequency tables onto rank 0.

NOT modelled: floating-point rounding.  The table entries are elements of an abstract additive commutative monoid,
so the theorems say that the distributed run and the single-rank run add up THE SAME TERMS, each once; they do not
say that two floating-point summations of these terms in different orders give bitwise identical results. -/

section Collect
open Pomerol.Model.Collect Pomerol.Spec.Collect
open Pomerol.Model.Disp (Sys allExited)
open Pomerol.Spec.Disp (Reachable)

/-- After the broadcast loop every rank holds every part.  `P` ranks, `J` parts; `owner` is the job-to-rank
map, each part has been computed (value `result p`) by the rank the map names, and every other rank holds
arbitrary stale data `stale r p` for it.  If the map only names ranks of the communicator, then after
`for p: broadcast(data of part p, root = owner p)` every rank holds `result p` for every part `p`: all ranks
hold the same, complete data, whatever they held before. -/
theorem all_ranks_hold_all_parts {α : Type} (P J : Nat) (owner : Nat → Nat) (result : Nat → α)
    (stale : Nat → Nat → Option α) (hown : ∀ p, p < J → owner p < P) :
    (∀ r p, r < P → p < J →
      entry (bcastAll J owner (initWorld P J (ranByMap owner) result stale)) r p = some (result p)) ∧
    bcastAll J owner (initWorld P J (ranByMap owner) result stale) =
      List.replicate P ((List.range J).map fun p => some (result p)) := by
  -- the ranks did what the map says
  have h : ∀ p, p < J → owner p < P ∧ ranByMap owner (owner p) p = true :=
    fun p hp => ⟨hown p hp, by simp [ranByMap]⟩
  exact bcast_all_ranks_agree P J owner _ result stale h

/-- Why the map has to name the rank that really executed the part: if for some part `p` the rank named by the
map did not execute it, then after the loop every rank, including the one that computed `p` correctly, holds
the stale data of the named rank. -/
theorem wrong_map_spreads_stale_data {α : Type} (P J : Nat) (owner : Nat → Nat) (ran : Nat → Nat → Bool)
    (result : Nat → α) (stale : Nat → Nat → Option α) (p : Nat) (hp : p < J) (hown : owner p < P)
    (hwrong : ran (owner p) p = false) (r : Nat) (hr : r < P) :
    entry (bcastAll J owner (initWorld P J ran result stale)) r p = stale (owner p) p := by
  rw [entry_bcastAll_initWorld P J owner ran result stale r p hr hp, if_pos hown, hwrong]
  rfl

/-- The table on the root equals the serial table.  Every rank starts with a table of `F` zeros; every
execution `(p, r)` of the log adds the contribution vector `contrib p` to the table of rank `r`; the reduction
delivers on rank 0 the entrywise sum over the `P` ranks.  If every part `p < J` has been executed exactly once,
on some rank `< P` (this is what C16 proves for the dispatcher), the delivered table is the table a single rank
accumulates by executing parts `0 … J-1` in order, and its entry `w` is the sum over all parts of their entry
`w`: the result does not depend on the number of ranks, on which rank ran which part, or on the order of
execution.  (Exact arithmetic; floating-point re-association is not modelled.) -/
theorem root_table_equals_serial_table {β : Type} [AddCommMonoid β] (P J F : Nat) (contrib : Nat → List β)
    (log : List (Nat × Nat)) (h : ExactlyOnce P J log) :
    reduceTables P F contrib log = serialTable J F contrib ∧
    (reduceTables P F contrib log).length = F ∧
    ∀ w, w < F → (reduceTables P F contrib log).getD w 0 = ∑ p ∈ Finset.range J, (contrib p).getD w 0 :=
  reduce_is_sum_over_parts P J F contrib log h

/-- the same for "part `p` runs on rank `owner p`", and: the serial table is the distributed procedure on one
rank -/
theorem root_table_independent_of_map_and_size {β : Type} [AddCommMonoid β] (P J F : Nat) (contrib : Nat → List β)
    (owner : Nat → Nat) (hown : ∀ p, p < J → owner p < P) :
    reduceTables P F contrib (ownerLog J owner) = reduceTables 1 F contrib (ownerLog J fun _ => 0) :=
  (reduce_owner_is_serial P J F contrib owner hown).trans
    (reduce_owner_is_serial 1 J F contrib _ fun _ _ => Nat.zero_lt_one).symm

/-- Why "exactly once" matters: a part executed a second time (anywhere in the execution order, on any rank)
is counted twice in the table. -/
theorem double_execution_counts_twice {β : Type} [AddCommMonoid β] (P J F : Nat) (contrib : Nat → List β)
    (log log' : List (Nat × Nat)) (h : ExactlyOnce P J log) (p r' : Nat) (hr' : r' < P)
    (hperm : log'.Perm ((p, r') :: log)) (w : Nat) (hw : w < F) :
    (reduceTables P F contrib log').getD w 0 = (serialTable J F contrib).getD w 0 + (contrib p).getD w 0 := by
  have hlt : ∀ x ∈ log', x.2 < P := by
    intro x hx
    rcases List.mem_cons.1 (hperm.mem_iff.1 hx) with rfl | hx
    · exact hr'
    · exact h.2.2 x hx
  rw [getD_reduceTables P F contrib log' hlt w hw, (hperm.map _).sum_eq, List.map_cons, List.sum_cons,
    ← getD_reduceTables P F contrib log h.2.2 w hw, (reduce_is_sum_over_parts P J F contrib log h).1, add_comm]

/-- A distributed step computes what a serial step computes.  Take ANY finished round of the dispatcher model:
`P ≥ 1` ranks, the `J` jobs `0 … J-1` in any order, any interleaving of the ranks and any message delays, all
ranks out of the loop.  Use its dispatch map as `job_map` (a missing key reads as 0, as `std::map::operator[]`
does) and its execution log as the record of who computed what.  Then
(i) after the broadcast loop every rank holds, for every part, the result computed by the rank that executed
it -- identical, complete data on all ranks, whatever stale data they held; and
(ii) the table reduced onto rank 0 is the table of a single-rank run, entry `w` being the sum over all parts.
(Exact arithmetic; floating-point re-association is not modelled.) -/
theorem distributed_step_refines_serial {α β : Type} [AddCommMonoid β] (P J : Nat) (jobs : List Nat) (hP : 0 < P)
    (hjobs : jobs.Perm (List.range J)) (s : Sys) (h : Reachable P jobs s) (hf : allExited s = true)
    (result : Nat → α) (stale : Nat → Nat → Option α) (F : Nat) (contrib : Nat → List β) :
    (∀ r p, r < P → p < J →
      entry (bcastAll J (ownerOfMap s.m.dmap) (initWorld P J (ranByLog s.log) result stale)) r p
        = some (result p)) ∧
    bcastAll J (ownerOfMap s.m.dmap) (initWorld P J (ranByLog s.log) result stale)
      = List.replicate P ((List.range J).map fun p => some (result p)) ∧
    reduceTables P F contrib s.log = serialTable J F contrib ∧
    (∀ w, w < F → (reduceTables P F contrib s.log).getD w 0 = ∑ p ∈ Finset.range J, (contrib p).getD w 0) :=
  Pomerol.Spec.Collect.distributed_step_refines_serial P J jobs hP hjobs s h hf result stale F contrib

def exOwner (p : Nat) : Nat := [2, 0, 1, 2].getD p 0
def exResult (p : Nat) : Nat := 10 + p
def exStale (r p : Nat) : Option Nat := if r = 0 then none else some (900 + 10 * r + p)
def exContrib (p : Nat) : List Nat := [[1, 2], [10, 20], [100, 200], [1000, 2000]].getD p []

example : initWorld 3 4 (ranByMap exOwner) exResult exStale =
    [[none, some 11, none, none],
     [some 910, some 911, some 12, some 913],
     [some 10, some 921, some 922, some 13]] := by decide

example : bcastAll 4 exOwner (initWorld 3 4 (ranByMap exOwner) exResult exStale) =
    List.replicate 3 [some 10, some 11, some 12, some 13] := by decide

/-- the hypothesis of `all_ranks_hold_all_parts` holds for this instance -/
example : ∀ p, p < 4 → exOwner p < 3 := by decide

/-- a wrong map (part 2 was executed by rank 1, the map says rank 2): everybody, rank 1 included, ends up with
the stale value 922 of rank 2 -/
example : bcastAll 4 (fun p => if p = 2 then 2 else exOwner p) (initWorld 3 4 (ranByMap exOwner) exResult exStale) =
    List.replicate 3 [some 10, some 11, some 922, some 13] := by decide

example : reduceTables 3 2 exContrib (ownerLog 4 exOwner) = [1111, 2222] ∧
    serialTable 4 2 exContrib = [1111, 2222] ∧
    reduceWorld 3 2 exContrib (ownerLog 4 exOwner) = [[1111, 2222], [0, 0], [0, 0]] := by decide

example : (List.range 3).map (localTable 2 exContrib (ownerLog 4 exOwner)) =
    [[10, 20], [100, 200], [1001, 2002]] := by decide

/-- the hypothesis of `root_table_equals_serial_table` holds for this instance -/
example : ExactlyOnce 3 4 (ownerLog 4 exOwner) := ownerLog_exactlyOnce 3 4 exOwner (by decide)

example : reduceTables 3 2 exContrib ((1, 2) :: ownerLog 4 exOwner) = [1121, 2242] := by decide

/-- a complete round of the dispatcher model with 3 ranks and job order `[2, 0, 3, 1]` under a schedule with
message delays … -/
def exSched : List (Nat × Bool) :=
  [(0, true), (1, true), (2, true), (0, true), (1, false), (2, false), (0, true), (1, false), (2, false),
   (0, true), (1, false), (2, true), (0, false), (1, false), (2, false), (0, false), (1, false), (2, false),
   (0, false), (1, false), (2, false), (0, true), (1, true), (2, true), (0, true), (0, false), (0, false),
   (0, false)]

/-- … ends with all ranks out of the loop, execution log `[(2,0), (0,1), (3,2), (1,2)]` (part, rank) and the
matching map: the hypotheses of `distributed_step_refines_serial` are satisfiable -/
example : (Pomerol.Model.Disp.run (Pomerol.Model.Disp.init 3 [2, 0, 3, 1]) exSched).map
      (fun s => (allExited s, s.log, (List.range 4).map (ownerOfMap s.m.dmap))) =
    some (true, [(2, 0), (0, 1), (3, 2), (1, 2)], [1, 2, 0, 2]) := by decide

example : [2, 0, 3, 1].Perm (List.range 4) := by decide

example : (Pomerol.Model.Disp.run (Pomerol.Model.Disp.init 3 [2, 0, 3, 1]) exSched).map
      (fun s => (bcastAll 4 (ownerOfMap s.m.dmap) (initWorld 3 4 (ranByLog s.log) exResult exStale),
                 reduceTables 3 2 exContrib s.log)) =
    some (List.replicate 3 [some 10, some 11, some 12, some 13], [1111, 2222]) := by decide

end Collect

/-- The facts about the source on which the model `Model/Collect.lean` rests, EXTRACTED by the translator on every run
(`Generated/SplitFormulas.lean`; the translator fails when the code no longer has this shape): in
`Hamiltonian::prepare/compute` every part is broadcast with root `job_map[p]` (on both sides of the owner test, whatever
the block size) after the owner checked that it did the part; in `TwoParticleGF::compute` the table is allocated on every
rank, reduced with `std::plus` to rank 0, and the term lists of every part are broadcast with root `job_map[p]`. -/
theorem source_collective_pattern :
    Pomerol.Gen.Split.hamiltonianBroadcastsFromOwner = true ∧
    Pomerol.Gen.Split.twoParticleReducesToRootAndBroadcastsFromOwner = true := ⟨rfl, rfl⟩

/-- The contribution of a part to the frequency table (`accumulate` in `Model/Collect.lean` adds the WHOLE contribution list)
is what the source does: `table[w] += part(freqs[w])` for every `w < freqs.size()` under a plain `omp parallel for`, so every
entry is updated exactly once whatever the number of threads (extracted on every run). -/
theorem source_table_loop : Pomerol.Gen.Split.tableLoopCoversAllFrequencies = true := rfl

end Pomerol.Properties.C06
