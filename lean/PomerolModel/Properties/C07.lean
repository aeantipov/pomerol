/-
  Property C07: the block decomposition of the Fock space is a sound partition.

  Models: `Model/Symm.lean` (`Symmetrizer::checkSymmetry` / `compute`, the scan of
  `StatesClassification::compute` as `classify`, `getInnerState` as `innerState`),
  `Model/Index.lean`, `Model/Operator.lean`.  Proofs: `Spec/Partition.lean` (the scan),
  `Spec/SymmSound.lean` (what an accepted integral of motion guarantees), `Spec/OpTotal.lean`
  (nothing in the analysis can fail), `Spec/IndexBij.lean`, `Spec/SnapProps.lean` (the identification
  of quantum numbers that agree within a tolerance: models `snap`, `snapRow`, `snapAll`).

  Part 1 (partition) holds for EVERY quantum-number function `qn` and every comparison `qeq` that is
  an equivalence relation (`IsEquiv qeq`; the library compares hashes of bit patterns: reflexive,
  symmetric, transitive), and every number `n` of Fock states.  `classify qeq qn n` returns
  `(block of every state, states of every block)`.

  Part 2 (soundness) is stated with exact coefficient tests over an arbitrary field, for the
  Jordan-Wigner representation `jwRep K` (the matrices the library itself computes with, see C05);
  `ModesLt M p` says that the polynomial `p` only mentions modes `< M`; `matrixElement op s s` is the
  quantum number of the Fock state `s` (that is how `StatesClassification` computes it).

  Part 3 (totality): for every lattice, coefficient type and tolerance tests the whole analysis
  returns normally.  Part 4 (regression): without the additivity test a non-additive integral was
  accepted and a block was mapped into two; the source performs the test.  Part 5: what the
  first-come identification of close floating-point quantum numbers does (described where it starts).
-/
import PomerolModel.Spec.Partition
import PomerolModel.Spec.SymmSound
import PomerolModel.Spec.OpTotal
import PomerolModel.Spec.IndexBij
import PomerolModel.Spec.SnapProps

namespace Pomerol.Properties.C07
open Pomerol.Model Pomerol.Model.Symm Pomerol.Spec Pomerol.Spec.Partition Pomerol.Spec.SymmSound

section Partition
variable {Q : Type} (qeq : Q → Q → Bool) (qn : Nat → Q) (n : Nat)

/-- Every Fock state `s < n` is listed in the block recorded for it, and in no other block: whenever
`s` occurs in block `b`, `b` is the block recorded for `s`. -/
theorem every_state_in_exactly_one_block (h : IsEquiv qeq) :
    (∀ s, s < n → ∃ b, (classify qeq qn n).1[s]? = some b ∧ b < (classify qeq qn n).2.length ∧
      s ∈ ((classify qeq qn n).2.getD b [])) ∧
    (∀ s b, s ∈ ((classify qeq qn n).2.getD b []) → (classify qeq qn n).1[s]? = some b) :=
  ⟨fun s hs => (classify_inv qeq qn n).own s hs, fun s b hm => have _ := h; mem_unique_block qeq qn n s b hm⟩  -- not needed for the proof

/-- The address (block, inner index) and the Fock state determine each other: `getInnerState` of a
state is the position at which its block lists it, and the state listed at position `i` of block
`b` has block `b` and inner index `i`. -/
theorem address_round_trip (h : IsEquiv qeq) :
    (∀ s, s < n → ∃ b i, (classify qeq qn n).1[s]? = some b ∧
      innerState (classify qeq qn n).1 (classify qeq qn n).2 s = some i ∧
      ((classify qeq qn n).2.getD b [])[i]? = some s) ∧
    (∀ b i s, ((classify qeq qn n).2.getD b [])[i]? = some s →
      (classify qeq qn n).1[s]? = some b ∧
      innerState (classify qeq qn n).1 (classify qeq qn n).2 s = some i) :=
  ⟨fun s hs => inner_roundtrip qeq qn n s hs,
    fun b i s hs => have _ := h; address_roundtrip qeq qn n b i s hs⟩  -- not needed for the proof

/-- The block sizes add up to the number of Fock states, and every state has a block number. -/
theorem block_sizes_add_up :
    ((classify qeq qn n).2.map List.length).sum = n ∧ (classify qeq qn n).1.length = n :=
  ⟨(classify_inv qeq qn n).sum, (classify_inv qeq qn n).len⟩

/-- Two states are in the same block if and only if their quantum numbers agree. -/
theorem same_block_iff_same_quantum_numbers (h : IsEquiv qeq) (s t : Nat) (hs : s < n)
    (ht : t < n) :
    (classify qeq qn n).1[s]? = (classify qeq qn n).1[t]? ↔ qeq (qn s) (qn t) = true :=
  same_block_iff qeq qn n h s t hs ht

end Partition

section Soundness
open scoped Pomerol.Spec.Exact
variable {K : Type} [Field K] [DecidableEq K]

/-- An operator accepted by `checkSymmetry` is diagonal in the Fock basis -- every Fock state is an
eigenvector, with the quantum number as eigenvalue -- and it commutes with the Hamiltonian. -/
theorem accepted_integral_is_diagonal (H op : Poly K) (M : Nat) (hm : ModesLt M op)
    (h : checkSymmetry H M op = .ok true) :
    (∀ s, s < 2 ^ M →
      (jwRep K).poly op (Finsupp.single s 1) = matrixElement op s s • Finsupp.single s 1) ∧
    (jwRep K).poly H * (jwRep K).poly op = (jwRep K).poly op * (jwRep K).poly H :=
  ⟨fun s _ => accepted_isDiag H op M hm h s, accepted_commutes_H H op M h⟩

/-- The Hamiltonian has no matrix element between states with different quantum numbers, hence none
between different blocks: a non-zero element `⟨t|H|s⟩` forces equal quantum numbers. -/
theorem no_hamiltonian_element_between_blocks (H op : Poly K) (M : Nat) (hmH : ModesLt M H)
    (hm : ModesLt M op) (h : checkSymmetry H M op = .ok true) (s t : Nat) (hs : s < 2 ^ M)
    (ht : t < 2 ^ M) (hne : matrixElement H t s ≠ 0) :
    matrixElement op s s = matrixElement op t t :=
  H_block_diagonal H op M hmH hm h s t hs ht hne

/-- `c†_i` maps a block into a single block: two states with equal quantum numbers (on which `c†_i`
does not vanish) are sent to states with equal quantum numbers; in fact the quantum number is shifted
by a constant that depends on `i` only. -/
theorem creation_single_target (H op : Poly K) (M : Nat) (hm : ModesLt M op)
    (h : checkSymmetry H M op = .ok true) (i : Nat) (hi : i < M) :
    (∀ s t, s < 2 ^ M → t < 2 ^ M → s.testBit i = false → t.testBit i = false →
      matrixElement op s s = matrixElement op t t →
      matrixElement op (flipBit s i) (flipBit s i) =
        matrixElement op (flipBit t i) (flipBit t i)) ∧
    (∃ a : K, ∀ s, s < 2 ^ M → s.testBit i = false →
      matrixElement op (flipBit s i) (flipBit s i) = matrixElement op s s + a) :=
  ⟨fun s t _ _ hsi hti hq => single_target_cdag_all H op M hm h i hi s t hsi hti hq,
    (shift_cdag_all H op M hm h i hi).imp fun _ ha s _ hsi => ha s hsi⟩

/-- `c_i` maps a block into a single block. -/
theorem annihilation_single_target (H op : Poly K) (M : Nat) (hm : ModesLt M op)
    (h : checkSymmetry H M op = .ok true) (i : Nat) (hi : i < M)
    (s t : Nat) (hs : s < 2 ^ M) (ht : t < 2 ^ M)
    (hsi : s.testBit i = true) (hti : t.testBit i = true)
    (hq : matrixElement op s s = matrixElement op t t) :
    matrixElement op (flipBit s i) (flipBit s i) =
      matrixElement op (flipBit t i) (flipBit t i) :=
  have _ := hs; have _ := ht  -- not needed for the proof
  single_target_c_all H op M hm h i hi s t hsi hti hq

/-- `c†_i c_j` (i ≠ j) maps a block into a single block. -/
theorem quadratic_single_target (H op : Poly K) (M : Nat) (hm : ModesLt M op)
    (h : checkSymmetry H M op = .ok true)
    (i j : Nat) (hi : i < M) (hj : j < M) (hij : i ≠ j)
    (s t : Nat) (hs : s < 2 ^ M) (ht : t < 2 ^ M)
    (hs1 : s.testBit j = true ∧ s.testBit i = false)
    (ht1 : t.testBit j = true ∧ t.testBit i = false)
    (hq : matrixElement op s s = matrixElement op t t) :
    matrixElement op (flipBit (flipBit s j) i) (flipBit (flipBit s j) i) =
      matrixElement op (flipBit (flipBit t j) i) (flipBit (flipBit t j) i) :=
  have _ := hs; have _ := ht  -- not needed for the proof
  single_target_quadratic H op M hm h i j hi hj hij s t hs1 ht1 hq

end Soundness

section Total
variable {K : Type} [Add K] [Sub K] [Mul K] [Neg K] [Zero K] [One K] [CoefTest K]

/-- For every lattice the whole analysis completes without an exception or undefined behaviour
(any coefficient type, any tolerance tests): the index table is built, the Hamiltonian is
translated, the default analysis (N and, when applicable, S_z -- the S_z constructor is only called
when it cannot throw), the analysis of user-supplied candidates, and every single test return
normally. -/
theorem analysis_completes_for_every_lattice :
    (∀ (sites : List Lat.Site) (mode : Bool),
      Idx.prepare sites mode = .ok (Idx.enumerate sites mode)) ∧
    (∀ (L : Lat.Lattice K) (tbl : List Idx.IndexInfo), (Idx.indexHamiltonian L tbl).isSome) ∧
    (∀ (H : Poly K) (tbl : List Idx.IndexInfo) (ignore : Bool) (half : K),
      ∃ acc, computeDefault H tbl ignore half = .ok acc) ∧
    (∀ (H : Poly K) (nmodes : Nat) (ops : List (Poly K)),
      ∃ acc, computeCustom H nmodes ops = .ok acc) ∧
    (∀ (H : Poly K) (nmodes : Nat) (op : Poly K), ∃ b, checkSymmetry H nmodes op = .ok b) :=
  ⟨Pomerol.Spec.IndexBij.prepare_ok, indexHamiltonian_isSome, computeDefault_ok, computeCustom_ok,
    checkSymmetry_ok⟩

end Total

section Regression
open scoped Pomerol.Spec.Exact

/-- REGRESSION (the defect that was fixed): without the additivity test the non-additive integral
`-n₀n₁` passes the commutation tests, although `c†₀` sends the states 0 and 2 (equal quantum number)
to the states 1 and 3 with different quantum numbers -- a block would be mapped into two blocks. -/
theorem nonadditive_integral_was_accepted :
    (Poly.commutes (K := Int) true (opN 0)
      [([⟨false,0⟩,⟨false,1⟩,⟨true,0⟩,⟨true,1⟩], -1)] = some true) ∧
    matrixElement (K := Int) [([⟨false,0⟩,⟨false,1⟩,⟨true,0⟩,⟨true,1⟩], -1)] 0 0 =
      matrixElement (K := Int) [([⟨false,0⟩,⟨false,1⟩,⟨true,0⟩,⟨true,1⟩], -1)] 2 2 ∧
    matrixElement (K := Int) [([⟨false,0⟩,⟨false,1⟩,⟨true,0⟩,⟨true,1⟩], -1)] 1 1 ≠
      matrixElement (K := Int) [([⟨false,0⟩,⟨false,1⟩,⟨true,0⟩,⟨true,1⟩], -1)] 3 3 := by
  decide

end Regression

/-- The source currently performs the additivity test. -/
theorem source_tests_additivity : Pomerol.Gen.Core.additivityTest = true := by decide

/-! ### quantum numbers in floating point: identification of values that differ by rounding only

`StatesClassification::compute` evaluates the quantum numbers in floating point and compares bit patterns.  For an
accepted integral with non-dyadic weights two states that the Hamiltonian connects may get values that agree only up
to rounding (0.1+0.2 vs 0.3; finding F17).  The code therefore replaces a value by the first already known value of
the same operation that is `close` to it (`Model/Symm.lean`: `snap`, `snapRow`, `snapAll`; `rows[s]` = raw quantum
numbers of the Fock state `s`).  The partition theorems of part 1 hold for every quantum-number function, hence also
for the replaced values; the theorems below say what the replacement does. -/

section Snap
open Pomerol.Spec.Snap
variable {Q : Type} {close : Q → Q → Bool} {nops : Nat} {rows : List (List Q)}

/-- The source performs the identification (translator flag). -/
theorem source_identifies_close_quantum_numbers : Pomerol.Gen.Core.quantumNumbersSnapped = true := by decide

/-- With exact comparison (exact arithmetic, part 2) nothing is replaced. -/
theorem identification_is_identity_in_exact_arithmetic [DecidableEq Q] (h : WellShaped nops rows) :
    snapAll (fun a b => decide (a = b)) nops rows = rows :=
  have _ := h  -- not needed for the proof
  snapAll_exact

/-- Every value is replaced by a raw value (of the same operation, of an earlier or the same state) that it is close to:
no number is invented and nothing moves further than the tolerance. -/
theorem replaced_value_is_a_close_raw_value (hrefl : ∀ v, close v v = true) (h : WellShaped nops rows) (s n : Nat)
    (v : Q) (hv : entry rows s n = some v) :
    ∃ v', entry (snapAll close nops rows) s n = some v' ∧ close v v' = true ∧
      ∃ t, t ≤ s ∧ entry rows t n = some v' := by
  obtain ⟨v', h1, h2⟩ := snapAll_close hrefl h s n v hv
  exact ⟨v', h1, h2, snapAll_representative_is_raw h s n v' h1⟩

/-- States with equal raw quantum numbers are never separated. -/
theorem equal_values_stay_together (hrefl : ∀ v, close v v = true) (h : WellShaped nops rows) (s t n : Nat) (v : Q)
    (hs : entry rows s n = some v) (ht : entry rows t n = some v) :
    entry (snapAll close nops rows) s n = entry (snapAll close nops rows) t n := snapAll_stable hrefl h s t n v hs ht

/-- When `close` is an equivalence on the values that occur (rounding errors far below the tolerance, distinct exact
values far apart) two states get the same replaced quantum numbers exactly if all their raw values are close: the
blocks are the classes of "equal up to rounding", whatever the order in which the values were met. -/
theorem identified_iff_close (h : WellShaped nops rows)
    (he : ∀ n, n < nops → IsEquivOn close (col rows n)) (s t : Nat) (hs : s < rows.length) (ht : t < rows.length) :
    (snapAll close nops rows)[s]? = (snapAll close nops rows)[t]? ↔
      ∀ n, n < nops → ∃ v w, entry rows s n = some v ∧ entry rows t n = some w ∧ close v w = true :=
  snapAll_rows_iff h he s t hs ht

end Snap

end Pomerol.Properties.C07
