/-
  Property C14: the dynamical susceptibility the library evaluates equals its definition
  `χ_AB(iΩ_k) = ∫₀^β ⟨A(τ) B(0)⟩ e^{iΩ_k τ} dτ`, at every bosonic Matsubara frequency including the
  static one (k = 0, degenerate levels), and the imaginary-time values are consistent with it.

  Setting: `d : EigenData ι` (β > 0, eigenvalues `d.E`, Gibbs weights `d.w`), `A`, `B` the matrices
  of the two operators in the eigenbasis, `d.Ω k = 2kπ/β`,
  `d.corr A B τ = Tr(ρ e^{τH} A e^{−τH} B)` (genuine matrix exponentials),
  `d.suscDef A B k = ∫₀^β d.corr A B τ · e^{iΩ_k τ} dτ`.  The formulas in namespace `Gen.Susc` are
  EXTRACTED FROM THE SOURCE (`SusceptibilityPart.cpp`): `residue`, `pole`, `termFreq` for a pair
  of non-degenerate levels, `zeroPoleIncrement` for a pair of degenerate levels, `termTau` for the
  imaginary-time value of a term, `disconnectedFreq/Tau` for the subtracted `⟨A⟩⟨B⟩` part.

  The statements about the sum over ALL pairs of eigenstates rest on `Spec/Susc.lean` and
  `Spec/Bridge.lean`; the degeneracy test is the exact one (`E_m = E_n`) in the first five theorems.
  What the extracted TOLERANCE tests change (finding F14) rests on `Spec/SuscTol.lean`.  The last
  section is about the loops the code really runs (`Model/SuscPart.lean`) and rests on
  `Spec/SuscRefine.lean`.
-/
import PomerolModel.Spec.Bridge
import PomerolModel.Spec.SuscTol
import PomerolModel.Spec.SuscRefine

namespace Pomerol.Properties.C14
open Matrix Complex Pomerol Pomerol.Spec

variable {ι : Type} [Fintype ι] [DecidableEq ι]

/-- The value given by the extracted formulas -- a term `−R/(iΩ_k − P)` for every pair of
eigenstates with different energies, and `β·(zero-pole weight)` at `k = 0` only for every pair with
equal energies -- summed over all pairs of eigenstates, equals the definition
`∫₀^β ⟨A(τ)B(0)⟩ e^{iΩ_k τ} dτ`.  For every spectrum (degeneracies allowed), all matrices, every
`k : ℤ`. -/
theorem susceptibility_equals_definition (d : EigenData ι) (A B : Matrix ι ι ℂ) (k : ℤ) :
    (∑ n, ∑ m, if d.E m = d.E n then
        (if k = 0 then Gen.Susc.zeroPoleIncrement (A n m) (B m n) (d.w n) * (d.β : ℂ) else 0)
      else Gen.Susc.termFreq (Gen.Susc.residue (A n m) (B m n) (d.w n) (d.w m))
        (Gen.Susc.pole (d.E m) (d.E n)) (Complex.I * (d.Ω k : ℂ)))
    = d.suscDef A B k :=
  Bridge.susc_sum d A B k

/-- Static limit: at `k = 0` (where `e^{iΩτ} = 1`, so the definition is `∫₀^β ⟨A(τ)B(0)⟩ dτ`) the
pairs of degenerate levels contribute `β · w_n · A_nm · B_mn`, the other pairs
`A_nm B_mn (w_n − w_m) / (E_m − E_n)`.  No term is singular and none is lost. -/
theorem static_limit (d : EigenData ι) (A B : Matrix ι ι ℂ) :
    d.suscDef A B 0 = ∑ n, ∑ m, if d.E m = d.E n then (d.β : ℂ) * (d.w n : ℂ) * A n m * B m n
      else A n m * B m n * ((d.w n : ℂ) - (d.w m : ℂ)) / ((d.E m - d.E n : ℝ) : ℂ) := by
  rw [lehmann_susc]
  unfold EigenData.lehmannSusc
  refine Finset.sum_congr rfl fun n _ => Finset.sum_congr rfl fun m _ => ?_
  have h0 : d.Ω 0 = 0 := (Omega_eq_zero_iff d 0).mpr rfl
  rw [h0, if_pos rfl]
  split_ifs with h
  · rfl
  · rw [Complex.ofReal_zero, mul_zero, zero_sub, neg_div_neg_eq]

/-- The imaginary-time values: the sum over all pairs of eigenstates of `w_n A_nm B_mn` (degenerate
pair) resp. the τ-term with residue `A_nm B_mn (w_n − w_m)` and pole `E_m − E_n` (non-degenerate
pair) IS the correlator `⟨A(τ) B(0)⟩`, for every real `τ`. -/
theorem tau_is_correlator (d : EigenData ι) (A B : Matrix ι ι ℂ) (τ : ℝ) :
    (∑ n, ∑ m, if d.E m = d.E n then (d.w n : ℂ) * A n m * B m n
               else suscTauTerm d.β (A n m * B m n * ((d.w n : ℂ) - (d.w m : ℂ)))
                      (d.E m - d.E n) τ)
      = d.corr A B τ :=
  susc_tau_eq_corr d A B τ

/-- The two domains are consistent: the EXTRACTED imaginary-time formula of one term (two branches,
selected by the sign of the pole to avoid overflow) is `suscTauTerm` in both branches, for all
arguments; and for a non-zero pole its Fourier transform `∫₀^β · e^{iΩ_k τ} dτ` is the frequency-domain
term `−R/(iΩ_k − P)`, for every `k : ℤ`. -/
theorem tau_frequency_consistent :
    (∀ (res : ℂ) (P τ β : ℝ), Gen.Susc.termTau res P τ β = suscTauTerm β res P τ) ∧
    ∀ (d : EigenData ι) (R : ℂ) (P : ℝ), P ≠ 0 → ∀ k : ℤ,
      ∫ τ in (0:ℝ)..d.β, Gen.Susc.termTau R P τ d.β * Complex.exp (I * (d.Ω k : ℂ) * (τ:ℂ))
        = Gen.Susc.termFreq R P (I * (d.Ω k : ℂ)) := by
  refine ⟨Bridge.susc_tau_all, fun d R P hP k => ?_⟩
  simp only [Bridge.susc_tau_all]
  rw [suscTauTerm_forward d R P hP k]
  rfl

/-- The disconnected part: the extracted τ-domain value is the constant `⟨A⟩⟨B⟩`, the extracted
frequency-domain value is `⟨A⟩⟨B⟩·β`, and the latter (at `k = 0`; zero at all other bosonic
frequencies) is the Fourier transform of the former -- so subtracting it in either domain is the
same operation. -/
theorem disconnected_part (d : EigenData ι) (aveA aveB : ℂ) (k : ℤ) :
    ∫ τ in (0:ℝ)..d.β, Gen.Susc.disconnectedTau aveA aveB * Complex.exp (I * (d.Ω k : ℂ) * (τ:ℂ))
      = if k = 0 then Gen.Susc.disconnectedFreq aveA aveB d.β else 0 := by
  rw [const_transform, (Bridge.susc_disconnected aveA aveB d.β).1,
    (Bridge.susc_disconnected aveA aveB d.β).2, mul_comm]

/-- Concrete instance: for a pair of degenerate levels the extracted zero-pole increment is
`A_nm · B_mn · w_n` (here with numbers). -/
example : Gen.Susc.zeroPoleIncrement (2 : ℂ) 3 (1/2 : ℝ) = 3 := by
  rw [Bridge.susc_zeroPole]
  norm_num

/-! ### the library's tolerance tests (finding F14)

The theorems above idealise the two tolerance tests of `SusceptibilityPart::compute` to the exact
test `E_m = E_n`.  Below, `suscWithTolerances d A B k rtol mtol` is the value obtained with the
EXTRACTED tests: for every pair `(n, m)`, if `Gen.Susc.isZeroPole (E_m − E_n) rtol`
(`|E_m − E_n| < rtol`) the pair adds `A_nm B_mn w_n` to the zero-pole weight (contributing `β·`that
at `k = 0` only); otherwise its term `−R/(iΩ_k − P)`, `R = A_nm B_mn (w_n − w_m)`, is kept only if
`Gen.Susc.residueKept R mtol` (`mtol < |R|`). -/

/-- The extracted tolerance constants of `SusceptibilityPart` (`ReduceResonanceTolerance`,
`MatrixElementTolerance`) are both `10⁻⁸`. -/
theorem library_tolerances :
    (Gen.Susc.tolResonance : ℝ) = 1 / 10 ^ 8 ∧ (Gen.Susc.tolMatrixElement : ℝ) = 1 / 10 ^ 8 :=
  Bridge.susc_tolerances

/-- What the library computes, with its own tolerances `10⁻⁸` (the extracted constants), accounted
for exactly: it is the definition `∫₀^β ⟨A(τ)B(0)⟩ e^{iΩ_k τ} dτ`
MINUS the exact Lehmann terms `−R/(iΩ_k − P)` of all pairs of levels that are split by at least
`10⁻⁸` but whose residue `R = A_nm B_mn (w_n − w_m)` has modulus at most `10⁻⁸` (these terms are
dropped by the residue filter),
MINUS, for all pairs of levels that are split by less than `10⁻⁸` without being exactly
degenerate, the difference between their exact Lehmann term and the zero-pole treatment
(`β w_n A_nm B_mn` at `k = 0`, nothing at `k ≠ 0`) they receive instead.
Nothing else is lost or added: for every spectrum, all matrices, every `k : ℤ`. -/
theorem value_with_library_tolerances (d : EigenData ι) (A B : Matrix ι ι ℂ) (k : ℤ) :
    suscWithTolerances d A B k Gen.Susc.tolResonance Gen.Susc.tolMatrixElement =
      d.suscDef A B k
      - (∑ n, ∑ m,
          if (1 / 10 ^ 8 : ℝ) ≤ |d.E m - d.E n| ∧
              ‖A n m * B m n * ((d.w n : ℂ) - (d.w m : ℂ))‖ ≤ (1 / 10 ^ 8 : ℝ) then
            -(A n m * B m n * ((d.w n : ℂ) - (d.w m : ℂ)))
              / (I * (d.Ω k : ℂ) - ((d.E m - d.E n : ℝ) : ℂ)) else 0)
      - (∑ n, ∑ m,
          if 0 < |d.E m - d.E n| ∧ |d.E m - d.E n| < (1 / 10 ^ 8 : ℝ) then
            -(A n m * B m n * ((d.w n : ℂ) - (d.w m : ℂ)))
              / (I * (d.Ω k : ℂ) - ((d.E m - d.E n : ℝ) : ℂ))
            - (if k = 0 then (d.β : ℂ) * (d.w n : ℂ) * A n m * B m n else 0) else 0) := by
  rw [Bridge.susc_tolerances.1, Bridge.susc_tolerances.2]
  exact suscWithTolerances_eq d A B k _ _ (by norm_num)

/-- The library's value IS the definition when there is no near-degeneracy and no tiny residue:
if every pair of levels is either exactly degenerate, or split by at least the resonance tolerance
with a residue `A_nm B_mn (w_n − w_m)` that is either larger than the matrix-element tolerance or
exactly zero (e.g. a vanishing matrix element).  Any tolerances `rtol > 0`, `mtol`; in particular
the library's `10⁻⁸`.  (`Spec/SuscTol.lean`, `twoLevel_clean`, shows a two-level system satisfying
the hypothesis with the library's tolerances.) -/
theorem exact_when_no_near_degeneracy (d : EigenData ι) (A B : Matrix ι ι ℂ) (k : ℤ)
    (rtol mtol : ℝ) (hr : 0 < rtol)
    (h : ∀ n m, d.E m = d.E n ∨ (rtol ≤ |d.E m - d.E n| ∧
      (mtol < ‖A n m * B m n * ((d.w n : ℂ) - (d.w m : ℂ))‖ ∨
        A n m * B m n * ((d.w n : ℂ) - (d.w m : ℂ)) = 0))) :
    suscWithTolerances d A B k rtol mtol = d.suscDef A B k :=
  suscWithTolerances_exact_of_clean_spectrum d A B k rtol mtol hr h

/-- KNOWN FINDING F14 (a defect of the library, stated about the extracted tests and constants).
The residue filter `|Residue| > 10⁻⁸` drops terms whose static contribution `Residue/Pole` is of
order one.  Witness: two levels `0` and `2·10⁻⁸` at `β = 1`, `A = |0⟩⟨1|`, `B = |1⟩⟨0|`.  The pair
is not a zero pole (`2·10⁻⁸ ≥ 10⁻⁸`), its residue `w₀ − w₁ = tanh(10⁻⁸)` is `≤ 10⁻⁸`, so the term is
dropped and the library's formula gives `χ(iΩ₀) = 0`; the definition `∫₀^β ⟨A(τ)B(0)⟩ dτ` is real
and `≥ 1/5` (its value is `≈ β/2 = 1/2`).  In general (`residue_filter_loses_static_term`): for a
single pair outside the window with `|a b (w_n − w_m)| ≤ mtol` the library gives `0` where the
definition is `a b (w_n − w_m)/(E_m − E_n)`. -/
theorem known_finding_F14_residue_filter :
    ∃ (d : EigenData (Fin 2)) (A B : Matrix (Fin 2) (Fin 2) ℂ),
      d.β = 1 ∧ d.E = ![0, 2 / 10 ^ 8] ∧ A = Matrix.single 0 1 1 ∧ B = Matrix.single 1 0 1 ∧
      suscWithTolerances d A B 0 Gen.Susc.tolResonance Gen.Susc.tolMatrixElement = 0 ∧
      (d.suscDef A B 0).im = 0 ∧ 1 / 5 ≤ (d.suscDef A B 0).re :=
  residue_filter_counterexample

/-- The parametric form of F14: `A` and `B` with the single non-zero entries `A n m = a`,
`B m n = b`; levels `n`, `m` with `E_m ≠ E_n` outside the resonance window; residue not above the
matrix-element tolerance.  Then the value with tolerances at `k = 0` is `0`, the definition is
`a b (w_n − w_m)/(E_m − E_n)`. -/
theorem F14_parametric (d : EigenData ι) (n m : ι) (a b : ℂ) (rtol mtol : ℝ)
    (hE : d.E m ≠ d.E n) (hP : rtol ≤ |d.E m - d.E n|)
    (hR : ‖a * b * ((d.w n : ℂ) - (d.w m : ℂ))‖ ≤ mtol) :
    suscWithTolerances d (Matrix.single n m a) (Matrix.single m n b) 0 rtol mtol = 0 ∧
    d.suscDef (Matrix.single n m a) (Matrix.single m n b) 0
      = a * b * ((d.w n : ℂ) - (d.w m : ℂ)) / ((d.E m - d.E n : ℝ) : ℂ) :=
  residue_filter_loses_static_term d n m a b rtol mtol hE hP hR

/-! ### the loop structure (`Susceptibility::prepare`, `SusceptibilityPart::compute`)

The theorems above are about the SUM OVER ALL PAIRS of eigenstates of the extracted formulas.  The code
does not run over all pairs: `Susceptibility::prepare` selects pairs of blocks by a merge walk over the
block bimaps of `A` and `B`, and `SusceptibilityPart::compute` walks a compressed row of the block of `A`
and a compressed column of the block of `B` in parallel, chasing indices.  `Model/SuscPart.lean` models
both loops (they are, token for token, the loops of the Green's-function code -- `Model/GFPart.lean` --
with the bosonic loop body: zero-pole branch, `w_outer − w_inner`), `Spec/SuscRefine.lean` proves that
nothing is lost and nothing is counted twice. -/

section Loops
open Pomerol.Model.GFPart (SpMat)
open Pomerol.Model.SuscPart

/-- THE LOOPS OF THE SUSCEPTIBILITY CODE COMPUTE THE SUSCEPTIBILITY.  `a` / `b`: the lists of
non-trivial blocks of the two operators as the code sees them (left view of `A`'s block bimap, right view
of `B`'s); `Ablk L R` / `Bblk R L`: compressed row-major / column-major copies of the blocks.  The model of
`Susceptibility::prepare` followed by `Susceptibility::compute` -- the merge walk over the two lists
creates the parts; for every part the double loop over sparse rows/columns sorts every coinciding pair of
matrix elements either into the zero-pole weight (degenerate levels) or into a term `(Residue, Pole)` --
never fails, and adding over all parts the values `−Residue/(iΩ_k − Pole)` of the terms plus (at `k = 0`
only) `β ·` the zero-pole weight gives `d.lehmannSusc A B k`, which is the definition.

Idealisations, as in `susceptibility_equals_definition`: the zero-pole test is exact on the spectrum
(`SuscRefine.exactZeroTest_iff`, `SuscRefine.sourceZeroTest_iff`), the residue filter is switched off
(`tol < 0`), no block is truncated, and the terms are summed as they are handed to `add_term` (what the
term container then does to them: `Properties/C14Merge.lean`).  With the library's tests:
`loops_compute_value_with_tolerances`. -/
theorem loops_compute_susceptibility {B : ℕ} {sz : Fin B → ℕ} (d : EigenData (GFRefine.Basis sz))
    (A Bm : Matrix (GFRefine.Basis sz) (GFRefine.Basis sz) ℂ) (a b : List (ℕ × ℕ))
    (ha : GFRefine.SortedByLeft a) (hb : GFRefine.SortedByRight b)
    (haA : GFRefine.CoversBlocks a A) (hbB : GFRefine.CoversBlocks b Bm)
    (hrange : ∀ p ∈ a, p.1 < B ∧ p.2 < B) (Ablk Bblk : ℕ → ℕ → SpMat ℂ)
    (hAblk : ∀ L R : Fin B, GFRefine.RepresentsRows (Ablk L.1 R.1) (GFRefine.block A L R))
    (hBblk : ∀ L R : Fin B, GFRefine.RepresentsCols (Bblk R.1 L.1) (GFRefine.block Bm R L))
    (zero : ℝ → Bool)
    (hzero : ∀ n m, zero (Gen.Susc.pole (d.E m) (d.E n)) = true ↔ d.E m = d.E n)
    (tol : ℝ) (htol : tol < 0) (k : ℤ) :
    ∃ parts, susceptibilityParts true true (fun _ => true) zero a b (GFRefine.blockTable d.w)
        (GFRefine.blockTable d.E) tol Ablk Bblk = .ok parts ∧
      (parts.map fun part =>
          (part.1.map fun t => Gen.Susc.termFreq t.res t.pole (Complex.I * (d.Ω k : ℂ))).sum
            + (if k = 0 then part.2 * (d.β : ℂ) else 0)).sum
        = d.lehmannSusc A Bm k ∧
      d.lehmannSusc A Bm k = d.suscDef A Bm k := by
  obtain ⟨parts, h1, h2⟩ := SuscRefine.susc_loops_compute_definition d A Bm a b ha hb haA hbB hrange
    Ablk Bblk hAblk hBblk zero hzero tol htol k
  exact ⟨parts, h1, h2.trans (lehmann_susc d A Bm k), (lehmann_susc d A Bm k).symm⟩

/-- The same with the library's OWN tests (`|Pole| < rtol`, `|Residue| > mtol`, extracted; arbitrary
tolerances): the loops compute exactly `suscWithTolerances d A B k rtol mtol`, so the accounting of
`value_with_library_tolerances` (finding F14) applies to the loops as they are, not only to a sum over
all pairs. -/
theorem loops_compute_value_with_tolerances {B : ℕ} {sz : Fin B → ℕ}
    (d : EigenData (GFRefine.Basis sz))
    (A Bm : Matrix (GFRefine.Basis sz) (GFRefine.Basis sz) ℂ) (a b : List (ℕ × ℕ))
    (ha : GFRefine.SortedByLeft a) (hb : GFRefine.SortedByRight b)
    (haA : GFRefine.CoversBlocks a A) (hbB : GFRefine.CoversBlocks b Bm)
    (hrange : ∀ p ∈ a, p.1 < B ∧ p.2 < B) (Ablk Bblk : ℕ → ℕ → SpMat ℂ)
    (hAblk : ∀ L R : Fin B, GFRefine.RepresentsRows (Ablk L.1 R.1) (GFRefine.block A L R))
    (hBblk : ∀ L R : Fin B, GFRefine.RepresentsCols (Bblk R.1 L.1) (GFRefine.block Bm R L))
    (rtol mtol : ℝ) (k : ℤ) :
    ∃ parts, susceptibilityParts true true (fun _ => true) (sourceZeroTest rtol) a b
        (GFRefine.blockTable d.w) (GFRefine.blockTable d.E) mtol Ablk Bblk = .ok parts ∧
      (parts.map fun part =>
          (part.1.map fun t => Gen.Susc.termFreq t.res t.pole (Complex.I * (d.Ω k : ℂ))).sum
            + (if k = 0 then part.2 * (d.β : ℂ) else 0)).sum
        = suscWithTolerances d A Bm k rtol mtol :=
  SuscRefine.susc_loops_compute_value_with_tolerances d A Bm a b ha hb haA hbB hrange Ablk Bblk
    hAblk hBblk rtol mtol k

/-- With the evaluation of the model: `Susceptibility::operator()(iΩ_k)` (sum over the parts of
`Terms(z) + (abs(z) < 1e-15 ? ZeroPoleWeight*beta : 0)`) equals the definition, for `β ≤ 10¹⁵` (so that
`|iΩ_k| < 10⁻¹⁵` only for `k = 0`).  In the model `Terms(z)` sums the terms as they were handed to
`add_term` (`SuscPart.termsValue`), not the content of the library's container after merging. -/
theorem loops_and_evaluation_compute_susceptibility {B : ℕ} {sz : Fin B → ℕ}
    (d : EigenData (GFRefine.Basis sz))
    (A Bm : Matrix (GFRefine.Basis sz) (GFRefine.Basis sz) ℂ) (a b : List (ℕ × ℕ))
    (ha : GFRefine.SortedByLeft a) (hb : GFRefine.SortedByRight b)
    (haA : GFRefine.CoversBlocks a A) (hbB : GFRefine.CoversBlocks b Bm)
    (hrange : ∀ p ∈ a, p.1 < B ∧ p.2 < B) (Ablk Bblk : ℕ → ℕ → SpMat ℂ)
    (hAblk : ∀ L R : Fin B, GFRefine.RepresentsRows (Ablk L.1 R.1) (GFRefine.block A L R))
    (hBblk : ∀ L R : Fin B, GFRefine.RepresentsCols (Bblk R.1 L.1) (GFRefine.block Bm R L))
    (zero : ℝ → Bool)
    (hzero : ∀ n m, zero (Gen.Susc.pole (d.E m) (d.E n)) = true ↔ d.E m = d.E n)
    (tol : ℝ) (htol : tol < 0) (hβ : d.β ≤ 10 ^ 15) (k : ℤ) :
    ∃ parts, susceptibilityParts true true (fun _ => true) zero a b (GFRefine.blockTable d.w)
        (GFRefine.blockTable d.E) tol Ablk Bblk = .ok parts ∧
      susceptibilityValue d.β (Complex.I * (d.Ω k : ℂ)) parts = d.suscDef A Bm k := by
  obtain ⟨sts, h1, h2⟩ := SuscRefine.susc_loops_compute_pair_sum d A Bm a b ha hb haA hbB hrange
    Ablk Bblk hAblk hBblk zero tol (SuscRefine.staticFactor d.β k) (Complex.I * (d.Ω k : ℂ))
  exact ⟨sts, h1, by
    rw [SuscRefine.susceptibilityValue_eq d hβ, h2,
      SuscRefine.pairSum_exact d A Bm zero hzero tol htol k]⟩

section LoopsExample
open GFRefine

private def sz1 : Fin 1 → ℕ := fun _ => 2
private def exOnes : Matrix (Basis sz1) (Basis sz1) ℂ := fun _ _ => 1
private def exBlk : ℕ → ℕ → SpMat ℂ := fun _ _ => [[(0, 1), (1, 1)], [(0, 1), (1, 1)]]
private noncomputable def exData : EigenData (Basis sz1) := ⟨1, one_pos, fun x => (x.2.1 : ℝ)⟩

private theorem ex_rep : RepresentsRows (exBlk 0 0) (fun _ _ => 1 : Matrix (Fin 2) (Fin 2) ℂ) :=
  RepresentsRows.of_lookup rfl (by decide) (by decide)
    fun i j => by fin_cases i <;> fin_cases j <;> exact Or.inl rfl

private theorem ex_covers : CoversBlocks [(0, 0)] exOnes := by
  intro L R _
  have hL : L.1 = 0 := Fin.val_eq_zero L
  have hR : R.1 = 0 := Fin.val_eq_zero R
  rw [hL, hR]
  exact List.mem_singleton.mpr rfl

/-- all hypotheses of `loops_compute_susceptibility` hold for: one block with the two levels `0`, `1`,
`β = 1`, `A = B =` all ones (the pairs `(0,0)`, `(1,1)` go to the zero-pole weight, the pairs `(0,1)`,
`(1,0)` become terms), exact zero-pole test; hence the modelled loops compute the susceptibility of this
system at every bosonic frequency -/
example (k : ℤ) :
    ∃ parts, susceptibilityParts true true (fun _ => true) SuscRefine.exactZeroTest [(0, 0)] [(0, 0)]
        (blockTable exData.w) (blockTable exData.E) (-1) exBlk exBlk = .ok parts ∧
      (parts.map fun part =>
          (part.1.map fun t => Gen.Susc.termFreq t.res t.pole (Complex.I * (exData.Ω k : ℂ))).sum
            + (if k = 0 then part.2 * (exData.β : ℂ) else 0)).sum
        = exData.suscDef exOnes exOnes k := by
  obtain ⟨parts, h1, h2, h3⟩ := loops_compute_susceptibility exData exOnes exOnes [(0, 0)] [(0, 0)]
    (by decide) (by decide) ex_covers ex_covers (by decide) exBlk exBlk
    (fun _ _ => ex_rep)
    (fun _ _ => ex_rep)
    SuscRefine.exactZeroTest (SuscRefine.exactZeroTest_iff exData) (-1) (by norm_num) k
  exact ⟨parts, h1, h2.trans h3⟩

/-- the index walk of the part of this example, run on the model: all four pairs are met, row by row -/
example : contributions true true ([[(0, 1), (1, 1)], [(0, 1), (1, 1)]] : SpMat ℤ)
      [[(0, 1), (1, 1)], [(0, 1), (1, 1)]]
    = .ok [(0, 0, 1, 1), (0, 1, 1, 1), (1, 0, 1, 1), (1, 1, 1, 1)] := by decide

/-- the merge walk of `Susceptibility::prepare` on bimaps of a particle-number conserving pair of
operators with three blocks: a part for every diagonal block pair -/
example : Pomerol.Model.SuscPart.prepare (fun _ => true) [(0, 0), (1, 1), (2, 2)]
    [(0, 0), (1, 1), (2, 2)] = .ok [(0, 0), (1, 1), (2, 2)] := by decide

end LoopsExample

end Loops

end Pomerol.Properties.C14
