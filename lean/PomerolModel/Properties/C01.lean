/-
  Property C01: the single-particle Matsubara Green's function the library evaluates equals its
  definition `G(iω_n) = −∫₀^β ⟨T c(τ) c†(0)⟩ e^{iω_n τ} dτ`, and the term container in which the
  Lehmann terms are collected loses nothing except what it explicitly drops as negligible.

  Setting: `d : EigenData ι` (β > 0, eigenvalues `d.E`, Gibbs weights `d.w`), `C`, `CX` the matrices
  of `c_i`, `c†_j` in the eigenbasis; `d.corr C CX τ = Tr(ρ e^{τH} C e^{−τH} CX)` with genuine matrix
  exponentials; `d.Gdef C CX n` the definition above; `d.lehmannG C CX z` the Lehmann sum.
  The formulas in namespace `Gen.GF` are EXTRACTED FROM THE SOURCE (`GreensFunctionPart.cpp`).
  `Model/TermList.lean` is the model of the C++ term container (`TermList.h`): like terms
  (equivalent w.r.t. the comparison `less` of the poles) are merged by adding the residues, a merged
  term is removed when the negligibility test `negl` fires; the model records every removed term.

  Three parts.  The theorems on the sum over ALL pairs of eigenstates rest on `Spec/Lehmann.lean`,
  `Spec/Bridge.lean`.  The theory of the term container (`addTerm_effect`, `addTerm_spec`, `addAll_spec`,
  for any coefficient and key type, any comparison and any negligibility test) is proved here;
  `Properties/C01Merge.lean`, `C02Terms.lean`, `C14Merge.lean` build on it.  The last section is about the
  loops the code really runs (`Model/GFPart.lean`) and rests on `Spec/GFRefine.lean`.
-/
import PomerolModel.Spec.Bridge
import PomerolModel.Model.TermList
import PomerolModel.Spec.GFRefine
import Mathlib.LinearAlgebra.Matrix.Notation

namespace Pomerol.Properties.C01
open Matrix Complex Pomerol Pomerol.Spec Pomerol.Model.TermList

section GF
variable {ι : Type} [Fintype ι] [DecidableEq ι]

/-- THE VALUE THE LIBRARY'S FORMULAS GIVE EQUALS THE DEFINITION
`−∫₀^β Tr(ρ e^{τH} C e^{−τH} CX) e^{iω_n τ} dτ`: the term, residue and pole formulas extracted from
`GreensFunctionPart.cpp`, summed over all pairs of eigenstates, at the extracted Matsubara frequency.
For every spectrum (degenerate or not), every β > 0, all matrices, every `n : ℤ`. -/
theorem gf_equals_definition (d : EigenData ι) (C CX : Matrix ι ι ℂ) (n : ℤ) :
    (∑ a, ∑ b, Gen.GF.termFreq (Gen.GF.residue (C a b) (CX b a) (d.w a) (d.w b))
        (Gen.GF.pole (d.E b) (d.E a))
        ((Complex.I * (Real.pi : ℂ) / (d.β : ℂ)) * ((Gen.GF.matsubaraOdd n : ℤ) : ℂ)))
      = d.Gdef C CX n :=
  Bridge.gf_equals_definition d C CX n

/-- The definition does not depend on the basis in which the eigen-system is expressed (any
invertible `V`; genuine matrix exponentials of the transformed Hamiltonian). -/
theorem lehmann_any_basis (d : EigenData ι) (V : Matrix ι ι ℂ) (hV : IsUnit V)
    (A B : Matrix ι ι ℂ) (τ : ℝ) :
    ((V * d.ρ * V⁻¹) * NormedSpace.exp ((τ : ℂ) • (V * d.H * V⁻¹)) * (V * A * V⁻¹)
        * NormedSpace.exp ((-(τ : ℂ)) • (V * d.H * V⁻¹)) * (V * B * V⁻¹)).trace = d.corr A B τ :=
  corr_conj d V hV A B τ

theorem terms_sum_to_lehmann (d : EigenData ι) (C CX : Matrix ι ι ℂ) (z : ℂ) :
    (∑ n, ∑ m, Gen.GF.termFreq (Gen.GF.residue (C n m) (CX m n) (d.w n) (d.w m))
        (Gen.GF.pole (d.E m) (d.E n)) z) = d.lehmannG C CX z :=
  Bridge.gf_sum d C CX z

/-- The value is a function of the eigen-data, the two matrices and the frequency only, so an
element of a container of Green's functions and a stand-alone object built from equal operator
matrices agree.  (That the matrices ARE equal is the subject of property C10.) -/
theorem container_equals_standalone (d : EigenData ι) (C CX C' CX' : Matrix ι ι ℂ)
    (hC : C = C') (hCX : CX = CX') (z : ℂ) (n : ℤ) :
    d.lehmannG C CX z = d.lehmannG C' CX' z ∧ d.Gdef C CX n = d.Gdef C' CX' n := by
  rw [hC, hCX]; exact ⟨rfl, rfl⟩

end GF

section Container
variable {K R M : Type} [AddCommMonoid M]

/-- two terms are equivalent w.r.t. the comparison: neither pole is less than the other (this is
literally the test in `findEquiv` / `eraseEquiv`) -/
abbrev Eqv (less : R → R → Bool) (a b : Term K R) : Prop :=
  (!less a.pole b.pole && !less b.pole a.pole) = true

/-- container invariant: the stored terms are pairwise inequivalent -/
abbrev Inv (less : R → R → Bool) (l : List (Term K R)) : Prop :=
  l.Pairwise fun a b => ¬ Eqv less a b

theorem eqv_symm {less : R → R → Bool} {a b : Term K R} (h : Eqv less a b) : Eqv less b a := by
  unfold Eqv at *
  rwa [Bool.and_comm]

theorem findEquiv_some {less : R → R → Bool} {t e : Term K R} {l : List (Term K R)}
    (h : findEquiv less t l = some e) : e ∈ l ∧ Eqv less e t := by
  induction l with
  | nil => simp [findEquiv] at h
  | cons a rest ih =>
    unfold findEquiv at h
    split_ifs at h with hc
    · obtain rfl : a = e := Option.some.inj h
      exact ⟨List.mem_cons_self, hc⟩
    · exact ⟨List.mem_cons_of_mem _ (ih h).1, (ih h).2⟩

theorem findEquiv_none {less : R → R → Bool} {t : Term K R} {l : List (Term K R)}
    (h : findEquiv less t l = none) : ∀ a ∈ l, ¬ Eqv less a t := by
  induction l with
  | nil => intro a ha; simp at ha
  | cons a rest ih =>
    unfold findEquiv at h
    split_ifs at h with hc
    intro b hb
    rcases List.mem_cons.mp hb with rfl | hb
    · exact hc
    · exact ih h b hb

theorem insertSorted_perm (less : R → R → Bool) (t : Term K R) (l : List (Term K R)) :
    (insertSorted less t l).Perm (t :: l) := by
  induction l with
  | nil => exact List.Perm.refl _
  | cons a rest ih =>
    unfold insertSorted
    split_ifs
    · exact List.Perm.refl _
    · exact (ih.cons a).trans (List.Perm.swap t a rest)

theorem eraseEquiv_perm {less : R → R → Bool} (hirr : ∀ p, less p p = false) {e : Term K R}
    {l : List (Term K R)} (hinv : Inv less l) (he : e ∈ l) :
    l.Perm (e :: eraseEquiv less e l) := by
  induction l with
  | nil => simp at he
  | cons a rest ih =>
    obtain ⟨ha, hrest⟩ := List.pairwise_cons.mp hinv
    unfold eraseEquiv
    split_ifs with hc
    · -- `a` is equivalent to `e`; since the stored terms are pairwise inequivalent, `a` is `e`
      rcases List.mem_cons.mp he with rfl | he'
      · exact List.Perm.refl _
      · exact absurd hc (ha e he')
    · have hne : e ≠ a := by
        rintro rfl
        exact hc (by simp [hirr])
      exact ((ih hrest ((List.mem_cons.mp he).resolve_left hne)).cons a).trans
        (List.Perm.swap e a _)

theorem inv_perm {less : R → R → Bool} {l l' : List (Term K R)} (h : l.Perm l') :
    Inv less l ↔ Inv less l' :=
  h.pairwise_iff fun hab hba => hab (eqv_symm hba)

theorem insertSorted_sum (less : R → R → Bool) (f : Term K R → M) (t : Term K R)
    (l : List (Term K R)) :
    ((insertSorted less t l).map f).sum = f t + (l.map f).sum :=
  ((insertSorted_perm less t l).map f).sum_eq.trans List.sum_cons

theorem insertSorted_inv {less : R → R → Bool} {t : Term K R} {l : List (Term K R)}
    (hinv : Inv less l) (ht : ∀ a ∈ l, ¬ Eqv less a t) : Inv less (insertSorted less t l) :=
  (inv_perm (insertSorted_perm less t l)).mpr
    (List.pairwise_cons.mpr ⟨fun b hb h => ht b hb (eqv_symm h), hinv⟩)

theorem eraseEquiv_spec {less : R → R → Bool} (hirr : ∀ p, less p p = false) (f : Term K R → M)
    {e : Term K R} {l : List (Term K R)} (hinv : Inv less l) (he : e ∈ l) :
    Inv less (eraseEquiv less e l) ∧ (∀ a ∈ eraseEquiv less e l, ¬ Eqv less a e) ∧
      (l.map f).sum = f e + ((eraseEquiv less e l).map f).sum := by
  have hp := eraseEquiv_perm hirr hinv he
  obtain ⟨h1, h2⟩ := List.pairwise_cons.mp ((inv_perm hp).mp hinv)
  exact ⟨h2, fun a ha h => h1 a ha (eqv_symm h), (hp.map f).sum_eq.trans List.sum_cons⟩

/-- what the sums over the stored and the dropped terms of the EMPTY container add -/
theorem nil_sums (f : Term K R → M) (s : M) :
    (([] : List (Term K R)).map f).sum + (([] : List (Term K R)).map f).sum + s = s := by
  rw [List.map_nil, List.sum_nil, zero_add, zero_add]

variable [Add K]

theorem addAll_cons (less : R → R → Bool) (negl : K → Nat → Bool) (data dropped : List (Term K R))
    (t : Term K R) (ts : List (Term K R)) :
    addAll less negl data dropped (t :: ts)
      = addAll less negl (addTerm less negl data t).1
          (dropped ++ (addTerm less negl data t).2.toList) ts := by
  rw [addAll]
  rcases addTerm less negl data t with ⟨d, _ | x⟩
  · rw [Option.toList_none, List.append_nil]
  · rfl

theorem addTerm_effect {less : R → R → Bool} (negl : K → Nat → Bool) (hirr : ∀ p, less p p = false)
    (f : Term K R → M) {data : List (Term K R)} (t : Term K R) (hinv : Inv less data) :
    Inv less (addTerm less negl data t).1 ∧
    (∀ x, (addTerm less negl data t).2 = some x → ∃ n, 0 < n ∧ negl x.res n = true) ∧
    (((addTerm less negl data t).1.map f).sum + ((addTerm less negl data t).2.toList.map f).sum
        = (data.map f).sum + f t ∨
      ∃ e rest, Eqv less e t ∧ (data.map f).sum = f e + rest ∧
        ((addTerm less negl data t).1.map f).sum + ((addTerm less negl data t).2.toList.map f).sum
          = f ⟨e.res + t.res, e.pole⟩ + rest) := by
  unfold addTerm
  cases hfe : findEquiv less t data with
  | none =>
    refine ⟨insertSorted_inv hinv (findEquiv_none hfe), (fun x hx => nomatch hx), Or.inl ?_⟩
    rw [insertSorted_sum, Option.toList_none, List.map_nil, List.sum_nil, add_zero, add_comm]
  | some e =>
    obtain ⟨hmem, heq⟩ := findEquiv_some hfe
    obtain ⟨i1, i2, i3⟩ := eraseEquiv_spec hirr f hinv hmem
    dsimp only
    split_ifs with hn
    · refine ⟨i1, fun x hx => ⟨(eraseEquiv less e data).length + 1, Nat.succ_pos _, ?_⟩,
        Or.inr ⟨e, _, heq, i3, ?_⟩⟩
      · cases hx; exact hn
      · rw [Option.toList_some, List.map_cons, List.map_nil, List.sum_cons, List.sum_nil, add_zero,
          add_comm]
    · refine ⟨insertSorted_inv i1 i2, (fun x hx => nomatch hx), Or.inr ⟨e, _, heq, i3, ?_⟩⟩
      rw [insertSorted_sum, Option.toList_none, List.map_nil, List.sum_nil, add_zero]

/-- general invariant of `add_term` (`TermList.h`), for any additive quantity `f` of a term that is
compatible with merging -/
theorem addTerm_spec {less : R → R → Bool} (negl : K → Nat → Bool) (hirr : ∀ p, less p p = false)
    (f : Term K R → M)
    (hf : ∀ e t : Term K R, Eqv less e t → f ⟨e.res + t.res, e.pole⟩ = f e + f t)
    {data : List (Term K R)} (t : Term K R) (hinv : Inv less data) :
    Inv less (addTerm less negl data t).1 ∧
    ((addTerm less negl data t).1.map f).sum + ((addTerm less negl data t).2.toList.map f).sum
      = (data.map f).sum + f t ∧
    ∀ x, (addTerm less negl data t).2 = some x → ∃ n, 0 < n ∧ negl x.res n = true := by
  obtain ⟨h1, h2, h3 | ⟨e, rest, he, hd, h3⟩⟩ := addTerm_effect negl hirr f t hinv
  · exact ⟨h1, h3, h2⟩
  · exact ⟨h1, by rw [h3, hd, hf e t he, add_right_comm], h2⟩

theorem addAll_spec {less : R → R → Bool} (negl : K → Nat → Bool) (hirr : ∀ p, less p p = false)
    (f : Term K R → M)
    (hf : ∀ e t : Term K R, Eqv less e t → f ⟨e.res + t.res, e.pole⟩ = f e + f t)
    (ts : List (Term K R)) : ∀ (data dropped : List (Term K R)), Inv less data →
    Inv less (addAll less negl data dropped ts).1 ∧
    ((addAll less negl data dropped ts).1.map f).sum + ((addAll less negl data dropped ts).2.map f).sum
      = (data.map f).sum + (dropped.map f).sum + (ts.map f).sum ∧
    ∀ x ∈ (addAll less negl data dropped ts).2, x ∈ dropped ∨ ∃ n, 0 < n ∧ negl x.res n = true := by
  induction ts with
  | nil =>
    intro data dropped hinv
    exact ⟨hinv, (add_zero _).symm, fun x hx => Or.inl hx⟩
  | cons t ts ih =>
    intro data dropped hinv
    obtain ⟨s1, s2, s3⟩ := addTerm_spec negl hirr f hf t hinv
    obtain ⟨j1, j2, j3⟩ := ih _ (dropped ++ (addTerm less negl data t).2.toList) s1
    rw [addAll_cons]
    refine ⟨j1, ?_, fun y hy => ?_⟩
    · rw [j2, List.map_append, List.sum_append, List.map_cons, List.sum_cons, ← add_assoc,
        add_right_comm _ (dropped.map f).sum, s2]
      ac_rfl
    · rcases j3 y hy with h | h
      · rcases List.mem_append.mp h with h | h
        · exact Or.inl h
        · exact Or.inr (s3 y (Option.mem_toList.mp h))
      · exact Or.inr h

end Container

/-- the terms the container holds after `ts` have been added one by one to an empty container -/
def kept (less : ℝ → ℝ → Bool) (negl : ℂ → ℕ → Bool) (ts : List (Term ℂ ℝ)) : List (Term ℂ ℝ) :=
  (addAll less negl [] [] ts).1

/-- the (ghost) list of the terms that were removed from the container in the process -/
def dropped (less : ℝ → ℝ → Bool) (negl : ℂ → ℕ → Bool) (ts : List (Term ℂ ℝ)) : List (Term ℂ ℝ) :=
  (addAll less negl [] [] ts).2

/-- RESIDUES ARE CONSERVED, AND ONLY NEGLIGIBLE TERMS ARE DROPPED, for every irreflexive comparison
of poles -- in particular the library's tolerance-based one, whose induced "equivalence" is NOT
transitive (`dropped_terms_budget_extracted`).  Irreflexivity cannot be omitted: see the
counterexample below. -/
theorem dropped_terms_budget (less : ℝ → ℝ → Bool) (negl : ℂ → ℕ → Bool)
    (hirr : ∀ p, less p p = false) (ts : List (Term ℂ ℝ)) :
    ((kept less negl ts).map (·.res)).sum + ((dropped less negl ts).map (·.res)).sum
      = (ts.map (·.res)).sum ∧
    ∀ x ∈ dropped less negl ts, ∃ n, 0 < n ∧ negl x.res n = true := by
  obtain ⟨-, h2, h3⟩ := addAll_spec negl hirr (fun t : Term ℂ ℝ => t.res) (fun _ _ _ => rfl) ts [] []
    List.Pairwise.nil
  refine ⟨h2.trans (nil_sums _ _), fun x hx => ?_⟩
  rcases h3 x hx with h | h
  · simp at h
  · exact h

theorem dropped_terms_negligible (less : ℝ → ℝ → Bool) (negl : ℂ → ℕ → Bool)
    (hirr : ∀ p, less p p = false) (ts : List (Term ℂ ℝ)) :
    ∀ x ∈ dropped less negl ts, ∃ n, negl x.res n = true := fun x hx =>
  let ⟨n, _, h⟩ := (dropped_terms_budget less negl hirr ts).2 x hx
  ⟨n, h⟩

/-- In the exact idealisation of the comparison (`less p q ↔ p < q`, so that only terms with EQUAL
poles are merged) the evaluated sums agree as well, at every `z`. -/
theorem dropped_terms_value (less : ℝ → ℝ → Bool) (negl : ℂ → ℕ → Bool)
    (hless : ∀ p q, less p q = true ↔ p < q) (ts : List (Term ℂ ℝ)) (z : ℂ) :
    ((kept less negl ts).map fun t => t.res / (z - (t.pole : ℂ))).sum
      + ((dropped less negl ts).map fun t => t.res / (z - (t.pole : ℂ))).sum
      = (ts.map fun t => t.res / (z - (t.pole : ℂ))).sum := by
  have hirr : ∀ p, less p p = false := fun p => by
    rw [← Bool.not_eq_true, hless]; exact lt_irrefl p
  have hf : ∀ e t : Term ℂ ℝ, Eqv less e t →
      (e.res + t.res) / (z - (e.pole : ℂ)) = e.res / (z - (e.pole : ℂ)) + t.res / (z - (t.pole : ℂ)) := by
    intro e t h
    -- with the exact comparison an equivalent element has the SAME pole
    have hp : e.pole = t.pole := by
      simp only [Eqv, Bool.and_eq_true, Bool.not_eq_true', ← Bool.not_eq_true, hless, not_lt] at h
      exact le_antisymm h.2 h.1
    simp only [hp, add_div]
  obtain ⟨-, h2, -⟩ := addAll_spec negl hirr (fun t : Term ℂ ℝ => t.res / (z - (t.pole : ℂ))) hf
    ts [] [] List.Pairwise.nil
  exact h2.trans (nil_sums _ _)

theorem termLess_irrefl (tol : ℝ) (htol : 0 < tol) (p : ℝ) : Gen.GF.termLess p p tol = false := by
  simp only [Gen.GF.termLess, sub_self, decide_eq_false_iff_not, not_not]
  exact htol

theorem eqv_termLess {tol : ℝ} {e t : Term ℂ ℝ}
    (h : Eqv (fun p q => Gen.GF.termLess p q tol) e t) : |e.pole - t.pole| < tol := by
  simp only [Eqv, Gen.GF.termLess, Bool.and_eq_true, Bool.not_eq_true', decide_eq_false_iff_not,
    not_not] at h
  rw [abs_lt, neg_lt, neg_sub]
  exact h

/-- The same for the predicates EXTRACTED FROM THE SOURCE: comparison `q − p ≥ tol` with any positive
tolerance, negligibility test `|res| < ntol / n`. -/
theorem dropped_terms_budget_extracted (tol ntol : ℝ) (htol : 0 < tol) (ts : List (Term ℂ ℝ)) :
    let less : ℝ → ℝ → Bool := fun p q => Gen.GF.termLess p q tol
    let negl : ℂ → ℕ → Bool := fun r n => Gen.GF.termNegligible r ntol (n : ℝ)
    ((kept less negl ts).map (·.res)).sum + ((dropped less negl ts).map (·.res)).sum
      = (ts.map (·.res)).sum ∧
    ∀ x ∈ dropped less negl ts, ∃ n : ℕ, 0 < n ∧ ‖x.res‖ < ntol / (n : ℝ) := by
  intro less negl
  obtain ⟨h1, h2⟩ := dropped_terms_budget less negl (termLess_irrefl tol htol) ts
  refine ⟨h1, fun x hx => ?_⟩
  obtain ⟨n, hn, h⟩ := h2 x hx
  refine ⟨n, hn, ?_⟩
  simpa only [negl, Gen.GF.termNegligible, decide_eq_true_iff, Bridge.abs_eq] using h

/-- Three terms with poles 5, 3, 5 and residues 1, 2, −1: the two terms at pole 5 are merged, the
merged residue 0 is negligible and the merged term is dropped; the term at pole 3 is kept. -/
example :
    let r := addAll (K := ℤ) (R := ℤ) (fun p q => decide (p < q)) (fun res _ => res == 0) [] []
      [⟨1, 5⟩, ⟨2, 3⟩, ⟨-1, 5⟩]
    (r.1.map fun t => (t.res, t.pole)) = [(2, 3)] ∧ (r.2.map fun t => (t.res, t.pole)) = [(0, 5)] := by
  decide

/-- Irreflexivity of the comparison is needed for the conservation of residues: with the
(non-irreflexive) `less p q := (p = 5 ∧ q = 5)` the stored term at pole 5 is found equivalent to
the new term at pole 3 but is not erased, and its residue is counted twice (kept residues
1 + (1+2) = 4, residues added 1 + 2 = 3). -/
example :
    let r := addAll (K := ℤ) (R := ℤ) (fun p q => p == 5 && q == 5) (fun _ _ => false) [] []
      [⟨1, 5⟩, ⟨2, 3⟩]
    (r.1.map (·.res)).sum + (r.2.map (·.res)).sum = 4 := by
  decide

/-! ## the loop structure of the real code

The theorems above sum the extracted formulas over ALL pairs of eigenstates.  The library does not do
that: `GreensFunction::prepare` selects pairs of blocks by a merge walk over two block bimaps, and for
every selected pair `GreensFunctionPart::compute` walks the compressed rows of the block of `c` and the
compressed columns of the block of `c†` in parallel, creating a term only where both store an entry.
`Model/GFPart.lean` is an executable model of exactly these loops (iterators as positions, reading an
exhausted iterator is an error, a flag for each advancing loop says whether it tests the iterator before
reading its index); `Spec/GFRefine.lean` proves that they compute the same sums.  The theorems below are
stated at the flags `true true`; that these are the flags extracted from the source is
`GFRefine.gfpart_contributions_source` (audited under property C17).
-/

section Loops
open Pomerol.Model.GFPart

/-- WALKING THE SPARSE ROWS LOSES NOTHING AND ADDS NOTHING.  On faithful compressed copies of `C`
(row-major) and `CX` (column-major) the double loop of `GreensFunctionPart::compute` never reads past
the end of a row or column, terminates, and the sum over the contributions it emits of any summand that
vanishes at a zero matrix element is the sum over ALL pairs `(index1, index2)`.  (Which contributions,
in which order, each once: `GFRefine.gfpart_contributions`, `mem_computeSpec`, `computeSpec_sorted`.) -/
theorem sparse_walk_is_full_sum {α β : Type} [Zero α] [AddCommMonoid β] {N M : ℕ}
    (f : ℕ → ℕ → α → α → β) (hf1 : ∀ i k x, f i k 0 x = 0) (hf2 : ∀ i k x, f i k x 0 = 0)
    {Cs CXs : SpMat α} {C : Matrix (Fin N) (Fin M) α} {CX : Matrix (Fin M) (Fin N) α}
    (hC : GFRefine.RepresentsRows Cs C) (hCX : GFRefine.RepresentsCols CXs CX) :
    ∃ l, compute true true (fun _ _ _ _ => true) Cs CXs = .ok l ∧
      (l.map fun x => f x.1 x.2.1 x.2.2.1 x.2.2.2).sum
        = ∑ i : Fin N, ∑ j : Fin M, f i.1 j.1 (C i j) (CX j i) :=
  GFRefine.gfpart_sum_eq_matrix_sum f hf1 hf2 hC hCX

/-- THE LOOP OF ONE PART COMPUTES ITS SHARE OF THE LEHMANN SUM.  For one pair of blocks the terms the
modelled `GreensFunctionPart::compute` hands to the term container (extracted residue and pole formulas,
extracted test `abs(Residue) > tol`) plus the terms of the pairs of states whose residue fails the test
(second summand; each has `|Residue| ≤ tol`, `GFRefine.filtered_residue_small`) add up to the extracted
term formula summed over ALL pairs (outer state, inner state).  With the filter idealised away
(`tol < 0`): `GFRefine.part_loop_refines_lehmann`; the whole eigenbasis as one block gives the
definition: `GFRefine.one_block_loop_refines_lehmann`. -/
theorem sparse_walk_computes_lehmann_part {N M : ℕ} (wO EO : Fin N → ℝ) (wI EI : Fin M → ℝ)
    {C : Matrix (Fin N) (Fin M) ℂ} {CX : Matrix (Fin M) (Fin N) ℂ} {Cs CXs : SpMat ℂ}
    (hC : GFRefine.RepresentsRows Cs C) (hCX : GFRefine.RepresentsCols CXs CX) (tol : ℝ) (z : ℂ) :
    ∃ ts, computeTerms true true (GFRefine.natExt wO) (GFRefine.natExt wI) (GFRefine.natExt EO)
        (GFRefine.natExt EI) tol Cs CXs = .ok ts ∧
      (ts.map fun t => Gen.GF.termFreq t.res t.pole z).sum
        + (∑ i : Fin N, ∑ j : Fin M,
            if Gen.GF.residueKept (Gen.GF.residue (C i j) (CX j i) (wO i) (wI j)) tol then 0
            else Gen.GF.termFreq (Gen.GF.residue (C i j) (CX j i) (wO i) (wI j))
              (Gen.GF.pole (EI j) (EO i)) z)
        = ∑ i : Fin N, ∑ j : Fin M, Gen.GF.termFreq (Gen.GF.residue (C i j) (CX j i) (wO i) (wI j))
            (Gen.GF.pole (EI j) (EO i)) z :=
  GFRefine.part_loop_refines_lehmann_filtered wO EO wI EI hC hCX tol z

/-- NO PAIR OF BLOCKS IS MISSED AND NONE IS TAKEN TWICE by the merge walk of
`GreensFunction::prepare`.  `c` is the left view of the block bimap of the annihilation operator, `cx`
the right view of that of the creation operator; in a bimap both sides are keys, hence the two
hypotheses.  (As a list, in which order: `GFRefine.prepare_selects_matching_pairs`; for a multimap the
walk WOULD miss pairs: `GFRefine.prepare_needs_unique_keys`.) -/
theorem block_pairs_complete (retained : ℕ → Bool) (c cx : List (ℕ × ℕ))
    (hc : GFRefine.SortedByLeft c) (hcx : GFRefine.SortedByRight cx) :
    ∃ parts, prepare retained c cx = .ok parts ∧ parts.Nodup ∧
      ∀ L R, (L, R) ∈ parts ↔
        (L, R) ∈ c ∧ (R, L) ∈ cx ∧ (retained L = true ∨ retained R = true) :=
  GFRefine.prepare_parts_characterised retained c cx hc hcx

/-- `C = [1 0 3; 0 5 7]` (2 × 3, row-major) and `CX = [0 1; 2 0; 4 10]` (3 × 2, column-major) -/
private def exCs : SpMat ℤ := [[(0, 1), (2, 3)], [(1, 5), (2, 7)]]
private def exCXs : SpMat ℤ := [[(1, 2), (2, 4)], [(0, 1), (2, 10)]]
private def exC : Matrix (Fin 2) (Fin 3) ℤ := !![1, 0, 3; 0, 5, 7]
private def exCX : Matrix (Fin 3) (Fin 2) ℤ := !![0, 1; 2, 0; 4, 10]

private theorem exC_represents : GFRefine.RepresentsRows exCs exC :=
  GFRefine.RepresentsRows.of_lookup rfl (by decide) (by decide)
    fun i j => by fin_cases i <;> fin_cases j <;> decide

private theorem exCX_represents : GFRefine.RepresentsCols exCXs exCX :=
  GFRefine.RepresentsRows.of_lookup rfl (by decide) (by decide)
    fun i j => by fin_cases i <;> fin_cases j <;> decide

/-- the hypotheses of `sparse_walk_is_full_sum` hold for this pair; the loop emits the two contributions
at `(0, 2)` and `(1, 2)` -- the only places where row `i` of `C` and column `i` of `CX` both store an
entry -- and `3·4 + 7·10 = 82` is the full double sum `∑ i j, C i j · CX j i` -/
example :
    GFRefine.RepresentsRows exCs exC ∧ GFRefine.RepresentsCols exCXs exCX ∧
    compute true true (fun _ _ _ _ => true) exCs exCXs = .ok [(0, 2, 3, 4), (1, 2, 7, 10)] ∧
    (([(0, 2, 3, 4), (1, 2, 7, 10)] : List (Contribution ℤ)).map fun x => x.2.2.1 * x.2.2.2).sum = 82 ∧
    (∑ i : Fin 2, ∑ j : Fin 3, exC i j * exCX j i) = 82 :=
  ⟨exC_represents, exCX_represents, by decide, by decide, by decide⟩

example : ∃ l, compute true true (fun _ _ _ _ => true) exCs exCXs = .ok l ∧
    (l.map fun x => x.2.2.1 * x.2.2.2).sum = ∑ i : Fin 2, ∑ j : Fin 3, exC i j * exCX j i :=
  sparse_walk_is_full_sum (fun _ _ c cx => c * cx) (fun _ _ x => zero_mul x)
    (fun _ _ x => mul_zero x) exC_represents exCX_represents

/-- block pairs: `c` maps 1→0, 2→1, 4→3 (as `(left, right)`: `<0|c|1>`, `<1|c|2>`, `<3|c|4>`),
`c†` has `<1|c†|0>`, `<5|c†|1>`, `<4|c†|3>`; parts are created for `(0, 1)` and `(3, 4)` -/
example : prepare (fun _ => true) [(0, 1), (1, 2), (3, 4)] [(1, 0), (5, 1), (4, 3)]
    = .ok [(0, 1), (3, 4)] := by decide

/-- THE WHOLE LOOP STRUCTURE COMPUTES THE LEHMANN SUM: `GreensFunction::prepare` followed by
`GreensFunction::compute` on a block-structured eigenbasis (bimap views listing the non-trivial blocks,
compressed copies of the blocks) runs without error, and the values at `z` of all terms of all parts add
up to `d.lehmannG C CX z`, which at `z = iω_n` is the definition (`gf_equals_definition`).
Idealisations: no truncation of the density matrix; residue filter switched off (`tol < 0`); the terms are
summed as they are handed to `add_term` (what the term container then does to them:
`dropped_terms_budget_extracted`, `C01Merge.merged_value_error`). -/
theorem loops_compute_lehmann_sum {B : ℕ} {sz : Fin B → ℕ} (d : EigenData (GFRefine.Basis sz))
    (C CX : Matrix (GFRefine.Basis sz) (GFRefine.Basis sz) ℂ) (c cx : List (ℕ × ℕ))
    (hc : GFRefine.SortedByLeft c) (hcx : GFRefine.SortedByRight cx)
    (hcC : GFRefine.CoversBlocks c C) (hcCX : GFRefine.CoversBlocks cx CX)
    (hrange : ∀ p ∈ c, p.1 < B ∧ p.2 < B) (Cblk CXblk : ℕ → ℕ → SpMat ℂ)
    (hCblk : ∀ L R : Fin B, GFRefine.RepresentsRows (Cblk L.1 R.1) (GFRefine.block C L R))
    (hCXblk : ∀ L R : Fin B, GFRefine.RepresentsCols (CXblk R.1 L.1) (GFRefine.block CX R L))
    (tol : ℝ) (htol : tol < 0) (z : ℂ) :
    ∃ tss, greensFunctionTerms true true (fun _ => true) c cx (GFRefine.blockTable d.w)
        (GFRefine.blockTable d.E) tol Cblk CXblk = .ok tss ∧
      (tss.map fun ts => (ts.map fun t => Gen.GF.termFreq t.res t.pole z).sum).sum
        = d.lehmannG C CX z := by
  obtain ⟨parts, tss, hp, h1, h2⟩ := GFRefine.prepared_parts_sum (γ := List (Term ℂ ℝ)) computeParts
    (fun _ => rfl) (fun _ _ _ _ _ _ h1 h2 => by rw [computeParts, h1, h2])
    (fun n m => Gen.GF.termFreq (Gen.GF.residue (C n m) (CX m n) (d.w n) (d.w m))
      (Gen.GF.pole (d.E m) (d.E n)) z) C CX (fun _ _ h => GFRefine.term_eq_zero h ..)
    c cx hc hcx hcC hcCX hrange
    (fun l r => computeTerms true true (GFRefine.blockTable d.w l) (GFRefine.blockTable d.w r)
      (GFRefine.blockTable d.E l) (GFRefine.blockTable d.E r) tol (Cblk l r) (CXblk r l))
    (fun ts => (ts.map fun t => Gen.GF.termFreq t.res t.pole z).sum)
    (fun L R => by
      simp only [GFRefine.blockTable_fin]
      exact GFRefine.part_loop_refines_lehmann _ _ _ _ (hCblk L R) (hCXblk L R) tol htol z)
  refine ⟨tss, ?_, h2.trans (Bridge.gf_sum d C CX z)⟩
  unfold greensFunctionTerms
  rw [hp]
  exact h1

section WholeExample
open GFRefine

private def sz2 : Fin 2 → ℕ := fun _ => 1
private def wC : Matrix (Basis sz2) (Basis sz2) ℂ := fun a b => if a.1 = 0 ∧ b.1 = 1 then 2 else 0
private def wCX : Matrix (Basis sz2) (Basis sz2) ℂ := fun a b => if a.1 = 1 ∧ b.1 = 0 then 3 else 0
private def wCblk : ℕ → ℕ → SpMat ℂ := fun l r => if l = 0 ∧ r = 1 then [[(0, 2)]] else [[]]
private def wCXblk : ℕ → ℕ → SpMat ℂ := fun l r => if l = 1 ∧ r = 0 then [[(0, 3)]] else [[]]

private theorem w_sorted : SortedByLeft [(0, 1)] ∧ SortedByRight [(1, 0)] ∧
    (∀ p ∈ [(0, 1)], p.1 < 2 ∧ p.2 < 2) := by decide

private theorem w_coversC : CoversBlocks [(0, 1)] wC :=
  coversBlocks_single 0 1 2

private theorem w_coversCX : CoversBlocks [(1, 0)] wCX :=
  coversBlocks_single 1 0 3

private theorem w_repC : ∀ L R : Fin 2, RepresentsRows (wCblk L.1 R.1) (block wC L R) := by
  intro L R
  -- the cases come as (L, R) = (0, 0), (0, 1), (1, 0), (1, 1)
  fin_cases L <;> fin_cases R
  · exact representsRows_zero 1 1
  · exact representsRows_single 2
  · exact representsRows_zero 1 1
  · exact representsRows_zero 1 1

private theorem w_repCX : ∀ L R : Fin 2, RepresentsCols (wCXblk R.1 L.1) (block wCX R L) := by
  intro L R
  unfold RepresentsCols
  -- (L, R) = (0, 0), (0, 1), (1, 0), (1, 1)
  fin_cases L <;> fin_cases R
  · exact representsRows_zero 1 1
  · exact representsRows_single 3
  · exact representsRows_zero 1 1
  · exact representsRows_zero 1 1

/-- all hypotheses hold for: two blocks of one state each, `<0|c|1> = 2`, `<1|c†|0> = 3`, every
eigenvalue `0`, `β = 1`; hence the modelled loops compute the Lehmann sum of this system -/
example (z : ℂ) :
    ∃ tss, greensFunctionTerms true true (fun _ => true) [(0, 1)] [(1, 0)]
        (blockTable (EigenData.w (ι := Basis sz2) ⟨1, one_pos, fun _ => 0⟩))
        (blockTable (EigenData.E (ι := Basis sz2) ⟨1, one_pos, fun _ => 0⟩)) (-1) wCblk wCXblk
          = .ok tss ∧
      (tss.map fun ts => (ts.map fun t => Gen.GF.termFreq t.res t.pole z).sum).sum
        = EigenData.lehmannG (ι := Basis sz2) ⟨1, one_pos, fun _ => 0⟩ wC wCX z :=
  loops_compute_lehmann_sum _ wC wCX [(0, 1)] [(1, 0)] w_sorted.1 w_sorted.2.1 w_coversC w_coversCX
    w_sorted.2.2 wCblk wCXblk w_repC w_repCX (-1) (by norm_num) z

end WholeExample

end Loops

end Pomerol.Properties.C01
