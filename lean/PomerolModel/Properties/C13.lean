/-
  Property C13: the container of two-particle Green's functions hands out, for every quadruple of
  indices and after every history of requests, an entry that evaluates to chi of that quadruple --
  whether the entry is the stored element or one of its three aliases (exchange of the first pair,
  of the last pair, of both) -- and after a bulk preparation followed by a bulk computation every
  listed entry is evaluable.

  Model: `Model/Container4.lean` (state machine of `IndexContainer4` / `TwoParticleGFContainer`).
  The table of permutations, the entries used by the aliases, the fourth-frequency arithmetic and
  the flag "fill clears NonTrivialElements" are extracted from the C++ source
  (`Generated/Chi4Formulas.lean`, `Generated/CoreFlags.lean`); they are used here only through
  `decide`/`rfl`/`simp [name]`, so that these proofs break when the source changes.
-/
import PomerolModel.Model.Container4
import PomerolModel.Spec.Chi4
import PomerolModel.Spec.Chi4Exchange
import PomerolModel.Spec.ListLemmas

namespace Pomerol.Properties.C13
open Pomerol.Model.C4

/-- an abstract family of two-particle functions with the two exchange symmetries, values in an
additive group -/
structure ChiFamily (V : Type) [AddCommGroup V] where
  chi : Quad → Int → Int → Int → V
  sym12 : ∀ i j k l n1 n2 n3, chi (j, i, k, l) n2 n1 n3 = - chi (i, j, k, l) n1 n2 n3
  sym34 : ∀ i j k l n1 n2 n3, chi (i, j, l, k) n1 n2 (n1 + n2 - n3) = - chi (i, j, k, l) n1 n2 n3

/-- value returned when the map entry (element created for `q0`, table entry `p`) is evaluated at
(n1,n2,n3): `sign • chi q0 (permuted numbers)`; `none` if the table entry is malformed -/
def entryValue {V} [AddCommGroup V] (F : ChiFamily V) (q0 : Quad) (p : Nat) (n1 n2 n3 : Int) :
    Option V :=
  (aliasArgs p n1 n2 n3).map fun (args, sign) => sign • F.chi q0 args.1 args.2.1 args.2.2

/-- the table entries and the fourth-frequency arithmetic used by the aliases, as extracted from the
source -/
theorem alias_table_entries :
    Pomerol.Gen.Core.aliasPerms = [0, 6, 1, 7] ∧
    (∀ n1 n2 n3, Pomerol.Gen.Core.fourthNumber n1 n2 n3 = n1 + n2 - n3) ∧
    Pomerol.Gen.Chi4.permutations4[0]? = some ([0,1,2,3], 1) ∧
    Pomerol.Gen.Chi4.permutations4[1]? = some ([0,1,3,2], -1) ∧
    Pomerol.Gen.Chi4.permutations4[6]? = some ([1,0,2,3], -1) ∧
    Pomerol.Gen.Chi4.permutations4[7]? = some ([1,0,3,2], 1) :=
  ⟨rfl, fun _ _ _ => rfl, rfl, rfl, rfl, rfl⟩

theorem aliasArgs_0 (n1 n2 n3 : Int) : aliasArgs 0 n1 n2 n3 = some ((n1, n2, n3), 1) := rfl

theorem aliasArgs_1 (n1 n2 n3 : Int) :
    aliasArgs 1 n1 n2 n3 = some ((n1, n2, n1 + n2 - n3), -1) := rfl

theorem aliasArgs_6 (n1 n2 n3 : Int) : aliasArgs 6 n1 n2 n3 = some ((n2, n1, n3), -1) := rfl

theorem aliasArgs_7 (n1 n2 n3 : Int) :
    aliasArgs 7 n1 n2 n3 = some ((n2, n1, n1 + n2 - n3), 1) := rfl

/-- the entry `p` of an element created for `q0` evaluates to chi of `q` -/
def Good {V} [AddCommGroup V] (F : ChiFamily V) (q0 q : Quad) (p : Nat) : Prop :=
  ∀ n1 n2 n3 : Int, entryValue F q0 p n1 n2 n3 = some (F.chi q n1 n2 n3)

/-- the two exchange symmetries undo the sign of the table entry -/
theorem entry_good {V} [AddCommGroup V] (F : ChiFamily V) (i j k l : Nat) :
    Good F (i,j,k,l) (i,j,k,l) 0 ∧ Good F (i,j,k,l) (j,i,k,l) 6 ∧
    Good F (i,j,k,l) (i,j,l,k) 1 ∧ Good F (i,j,k,l) (j,i,l,k) 7 := by
  refine ⟨fun n1 n2 n3 => ?_, fun n1 n2 n3 => ?_, fun n1 n2 n3 => ?_, fun n1 n2 n3 => ?_⟩
  · simp only [entryValue, aliasArgs_0, Option.map_some, one_zsmul]
  · simp only [entryValue, aliasArgs_6, Option.map_some]
    rw [F.sym12 j i k l n1 n2 n3, neg_one_zsmul, neg_neg]
  · simp only [entryValue, aliasArgs_1, Option.map_some]
    rw [F.sym34 i j l k n1 n2 n3, neg_one_zsmul, neg_neg]
  · simp only [entryValue, aliasArgs_7, Option.map_some]
    rw [F.sym12 j i k l n1 n2 (n1 + n2 - n3), F.sym34 j i l k n1 n2 n3, one_zsmul, neg_neg]

/-- the four kinds of entries `set` creates evaluate to chi of the key quadruple -/
theorem alias_value {V} [AddCommGroup V] (F : ChiFamily V) (i j k l : Nat) (n1 n2 n3 : Int) :
    entryValue F (i,j,k,l) (Pomerol.Gen.Core.aliasPerms.getD 0 0) n1 n2 n3
      = some (F.chi (i,j,k,l) n1 n2 n3) ∧
    entryValue F (i,j,k,l) (Pomerol.Gen.Core.aliasPerms.getD 1 0) n1 n2 n3
      = some (F.chi (j,i,k,l) n1 n2 n3) ∧
    entryValue F (i,j,k,l) (Pomerol.Gen.Core.aliasPerms.getD 2 0) n1 n2 n3
      = some (F.chi (i,j,l,k) n1 n2 n3) ∧
    entryValue F (i,j,k,l) (Pomerol.Gen.Core.aliasPerms.getD 3 0) n1 n2 n3
      = some (F.chi (j,i,l,k) n1 n2 n3) := by
  obtain ⟨h0, h6, h1, h7⟩ := entry_good F i j k l
  rw [alias_table_entries.1]
  exact ⟨h0 n1 n2 n3, h6 n1 n2 n3, h1 n1 n2 n3, h7 n1 n2 n3⟩

theorem mem_ins {β : Type} (k : Quad) (v : β) (m : List (Quad × β)) (x : Quad × β) :
    x ∈ insertNoOverwrite k v m → x ∈ m ∨ x = (k, v) := by
  induction m with
  | nil => intro h; simpa [insertNoOverwrite] using h
  | cons a rest ih =>
    obtain ⟨k', v'⟩ := a
    unfold insertNoOverwrite
    split
    · exact Or.inl
    · split
      · exact fun h => (List.mem_cons.1 h).symm
      · intro h
        rcases List.mem_cons.1 h with h | h
        · exact Or.inl (h ▸ List.mem_cons_self)
        · exact (ih h).imp_left (List.mem_cons_of_mem _)

theorem mem_ins_of_mem {β : Type} (k : Quad) (v : β) (m : List (Quad × β)) (x : Quad × β) :
    x ∈ m → x ∈ insertNoOverwrite k v m := by
  induction m with
  | nil => intro h; cases h
  | cons a rest ih =>
    obtain ⟨k', v'⟩ := a
    unfold insertNoOverwrite
    split
    · exact id
    · split
      · intro h; exact List.mem_cons_of_mem _ h
      · intro h
        rcases List.mem_cons.1 h with h | h
        · exact h ▸ List.mem_cons_self
        · exact List.mem_cons_of_mem _ (ih h)

theorem mem_ins_self {β : Type} (k : Quad) (v : β) (m : List (Quad × β))
    (hk : ∀ x ∈ m, x.1 ≠ k) : (k, v) ∈ insertNoOverwrite k v m := by
  induction m with
  | nil => simp [insertNoOverwrite]
  | cons a rest ih =>
    obtain ⟨k', v'⟩ := a
    unfold insertNoOverwrite
    split
    · next h => exact absurd h.symm (hk (k', v') List.mem_cons_self)
    · split
      · exact List.mem_cons_self
      · exact List.mem_cons_of_mem _ (ih fun x hx => hk x (List.mem_cons_of_mem _ hx))

theorem lookupMap_some {β : Type} (m : List (Quad × β)) (k : Quad) (v : β)
    (h : lookupMap m k = some v) : (k, v) ∈ m := by
  obtain ⟨a, hf, rfl⟩ := Option.map_eq_some_iff.1 h
  have h1 : a.1 = k := by simpa using List.find?_some hf
  exact h1 ▸ List.mem_of_find?_eq_some hf

theorem lookupMap_none {β : Type} (m : List (Quad × β)) (k : Quad)
    (h : (lookupMap m k).isSome = false) : ∀ x ∈ m, x.1 ≠ k := by
  unfold lookupMap at h
  cases hf : m.find? (·.1 = k) with
  | some a => rw [hf] at h; simp at h
  | none =>
    intro x hx
    have := List.find?_eq_none.1 hf x hx
    simpa using this

def addAlias (id : Nat) (st : State) (q' : Quad) (perm : Nat) : State :=
  if (lookupMap st.emap q').isSome then st
  else { st with emap := insertNoOverwrite q' (id, perm) st.emap }

def addAliasIf (c : Bool) (id : Nat) (st : State) (q' : Quad) (perm : Nat) : State :=
  if c then addAlias id st q' perm else st

theorem set_eq (s : State) (i j k l : Nat) :
    set s (i,j,k,l) =
      (addAliasIf (!(i == j) && !(k == l)) s.elems.length
        (addAliasIf (!(k == l)) s.elems.length
          (addAliasIf (!(i == j)) s.elems.length
            { elems := s.elems ++ [{ quad := (i,j,k,l) }],
              emap := insertNoOverwrite (i,j,k,l) (s.elems.length, 0) s.emap,
              nontriv := insertNoOverwrite (i,j,k,l) s.elems.length s.nontriv }
            (j,i,k,l) 6) (i,j,l,k) 1) (j,i,l,k) 7, s.elems.length) := by
  unfold Pomerol.Model.C4.set
  rw [alias_table_entries.1]
  rfl

theorem addAliasIf_elems (c id st q' p) : (addAliasIf c id st q' p).elems = st.elems := by
  unfold addAliasIf addAlias; split_ifs <;> rfl

theorem addAliasIf_nontriv (c id st q' p) : (addAliasIf c id st q' p).nontriv = st.nontriv := by
  unfold addAliasIf addAlias; split_ifs <;> rfl

theorem addAliasIf_mem (c id st q' p x) :
    x ∈ (addAliasIf c id st q' p).emap → x ∈ st.emap ∨ x = (q', id, p) := by
  unfold addAliasIf addAlias
  split_ifs
  exacts [Or.inl, mem_ins _ _ _ _, Or.inl]

theorem addAliasIf_mono (c id st q' p x) :
    x ∈ st.emap → x ∈ (addAliasIf c id st q' p).emap := by
  unfold addAliasIf addAlias
  split
  · split
    · exact fun h => h
    · exact mem_ins_of_mem _ _ _ _
  · exact fun h => h

theorem set_id (s : State) (q : Quad) : (set s q).2 = s.elems.length := by
  obtain ⟨i, j, k, l⟩ := q; rw [set_eq]

theorem set_elems (s : State) (q : Quad) : (set s q).1.elems = s.elems ++ [{ quad := q }] := by
  obtain ⟨i, j, k, l⟩ := q
  rw [set_eq]; simp only [addAliasIf_elems]

theorem set_nontriv (s : State) (q : Quad) :
    (set s q).1.nontriv = insertNoOverwrite q s.elems.length s.nontriv := by
  obtain ⟨i, j, k, l⟩ := q
  rw [set_eq]; simp only [addAliasIf_nontriv]

theorem set_mem (s : State) (i j k l : Nat) (x : Quad × Nat × Nat) :
    x ∈ (set s (i,j,k,l)).1.emap → x ∈ s.emap ∨ x = ((i,j,k,l), s.elems.length, 0) ∨
      x = ((j,i,k,l), s.elems.length, 6) ∨ x = ((i,j,l,k), s.elems.length, 1) ∨
      x = ((j,i,l,k), s.elems.length, 7) := by
  rw [set_eq]
  intro h
  rcases addAliasIf_mem _ _ _ _ _ _ h with h | h
  · rcases addAliasIf_mem _ _ _ _ _ _ h with h | h
    · rcases addAliasIf_mem _ _ _ _ _ _ h with h | h
      · rcases mem_ins _ _ _ _ h with h | h
        · exact Or.inl h
        · exact Or.inr (Or.inl h)
      · exact Or.inr (Or.inr (Or.inl h))
    · exact Or.inr (Or.inr (Or.inr (Or.inl h)))
  · exact Or.inr (Or.inr (Or.inr (Or.inr h)))

theorem set_mono (s : State) (q : Quad) (x : Quad × Nat × Nat) :
    x ∈ s.emap → x ∈ (set s q).1.emap := by
  obtain ⟨i, j, k, l⟩ := q
  rw [set_eq]
  intro h
  exact addAliasIf_mono _ _ _ _ _ _ (addAliasIf_mono _ _ _ _ _ _ (addAliasIf_mono _ _ _ _ _ _
    (mem_ins_of_mem _ _ _ _ h)))

theorem set_mem_self (s : State) (q : Quad) (hq : ∀ x ∈ s.emap, x.1 ≠ q) :
    (q, s.elems.length, 0) ∈ (set s q).1.emap := by
  obtain ⟨i, j, k, l⟩ := q
  rw [set_eq]
  exact addAliasIf_mono _ _ _ _ _ _ (addAliasIf_mono _ _ _ _ _ _ (addAliasIf_mono _ _ _ _ _ _
    (mem_ins_self _ _ _ hq)))

/-- `s'` has the same maps as `s`, and every element of `s` is still there, for the same quadruple,
with at least the same status -/
def Evolves (s s' : State) : Prop :=
  s'.emap = s.emap ∧ s'.nontriv = s.nontriv ∧
  ∀ (id : Nat) (e : Elem), s.elems[id]? = some e → ∃ e' : Elem, s'.elems[id]? = some e' ∧ e'.quad = e.quad ∧
    (e.prepared = true → e'.prepared = true) ∧ (e.computed = true → e'.computed = true)

theorem Evolves.refl (s : State) : Evolves s s :=
  ⟨rfl, rfl, fun _ e h => ⟨e, h, rfl, fun h => h, fun h => h⟩⟩

theorem Evolves.trans {s t u : State} (h1 : Evolves s t) (h2 : Evolves t u) : Evolves s u := by
  refine ⟨h2.1.trans h1.1, h2.2.1.trans h1.2.1, fun id e he => ?_⟩
  obtain ⟨e', he', hq, hp, hc⟩ := h1.2.2 id e he
  obtain ⟨e'', he'', hq', hp', hc'⟩ := h2.2.2 id e' he'
  exact ⟨e'', he'', hq'.trans hq, fun h => hp' (hp h), fun h => hc' (hc h)⟩

theorem evolves_modify (s : State) (i : Nat) (f : Elem → Elem)
    (hf : ∀ e, (f e).quad = e.quad ∧ (e.prepared = true → (f e).prepared = true) ∧
      (e.computed = true → (f e).computed = true)) :
    Evolves s { s with elems := s.elems.modify i f } := by
  refine ⟨rfl, rfl, fun id e he => ?_⟩
  simp only [List.getElem?_modify, he, Option.map_eq_map, Option.map_some]
  by_cases h : i = id
  · exact ⟨f e, by simp [h], hf e⟩
  · exact ⟨e, by simp [h], rfl, fun h => h, fun h => h⟩

theorem modify_at (s : State) (i : Nat) (f : Elem → Elem) (e : Elem) (he : s.elems[i]? = some e) :
    ({ s with elems := s.elems.modify i f } : State).elems[i]? = some (f e) := by
  simp [he]

theorem markPrepared_evolves (s : State) (id : Nat) : Evolves s (markPrepared s id) :=
  evolves_modify s id _ fun _ => ⟨rfl, fun _ => rfl, fun h => h⟩

theorem markPrepared_at (s : State) (id : Nat) (e : Elem) (he : s.elems[id]? = some e) :
    ∃ e', (markPrepared s id).elems[id]? = some e' ∧ e'.prepared = true :=
  ⟨_, modify_at s id _ e he, rfl⟩

def markComputed (s : State) (id : Nat) : State :=
  { s with elems := s.elems.modify id fun e => { e with computed := true } }

theorem computeElem_of_prepared (s : State) (id : Nat) (e : Elem) (he : s.elems[id]? = some e)
    (hp : e.prepared = true) : computeElem s id = some (markComputed s id) := by
  unfold computeElem markComputed
  rw [he]
  simp [hp]

theorem computeElem_evolves (s s' : State) (id : Nat) (h : computeElem s id = some s') :
    Evolves s s' := by
  unfold computeElem at h
  split at h
  · split at h
    · cases h
      exact evolves_modify s id _ fun _ => ⟨rfl, fun h => h, fun _ => rfl⟩
    · cases h
  · cases h

theorem computeList_evolves : ∀ (ids : List Nat) (s : State), Evolves s (computeList ids s).1
  | [], s => Evolves.refl s
  | id :: rest, s => by
    unfold computeList
    split
    · next s' h => exact (computeElem_evolves s s' id h).trans (computeList_evolves rest s')
    · exact Evolves.refl s

theorem evaluable_iff (s : State) (id : Nat) :
    evaluable s id = true ↔ ∃ e, s.elems[id]? = some e ∧ e.computed = true := by
  unfold evaluable
  cases s.elems[id]? <;> simp

theorem computeList_ok : ∀ (ids : List Nat) (s : State),
    (∀ id ∈ ids, ∃ e, s.elems[id]? = some e ∧ e.prepared = true) →
    (computeList ids s).2 = true ∧ ∀ id ∈ ids, evaluable (computeList ids s).1 id = true
  | [], s, _ => ⟨rfl, fun _ h => by cases h⟩
  | id :: rest, s, h => by
    obtain ⟨e, he, hp⟩ := h id List.mem_cons_self
    have hc := computeElem_of_prepared s id e he hp
    have hst := computeElem_evolves s _ id hc
    have hrest : ∀ id' ∈ rest, ∃ e', (markComputed s id).elems[id']? = some e' ∧
        e'.prepared = true := by
      intro id' hid'
      obtain ⟨e1, he1, hp1⟩ := h id' (List.mem_cons_of_mem _ hid')
      obtain ⟨e2, he2, _, hp2, _⟩ := hst.2.2 id' e1 he1
      exact ⟨e2, he2, hp2 hp1⟩
    have ih := computeList_ok rest _ hrest
    have hst' := computeList_evolves rest (markComputed s id)
    have hunf : computeList (id :: rest) s = computeList rest (markComputed s id) := by
      rw [computeList, hc]
    rw [hunf]
    refine ⟨ih.1, fun id' hid' => ?_⟩
    rcases List.mem_cons.1 hid' with h' | h'
    · subst h'
      obtain ⟨e2, he2, _, _, hc2⟩ := hst'.2.2 id' _ (modify_at s id' _ e he)
      exact (evaluable_iff _ _).2 ⟨e2, he2, hc2 rfl⟩
    · exact ih.2 id' h'

theorem prepareAll_eq (clears : Bool) (n : Nat) (s : State) (qs : List Quad) :
    prepareAll clears n s qs =
      (fill clears n s qs).emap.foldl (fun st x => markPrepared st x.2.1) (fill clears n s qs) :=
  rfl

theorem foldl_markPrepared : ∀ (L : List (Quad × Nat × Nat)) (s : State),
    Evolves s (L.foldl (fun st x => markPrepared st x.2.1) s) ∧
    ∀ x ∈ L, (∃ e, s.elems[x.2.1]? = some e) →
      ∃ e', (L.foldl (fun st x => markPrepared st x.2.1) s).elems[x.2.1]? = some e' ∧
        e'.prepared = true
  | [], s => ⟨Evolves.refl s, fun _ h => by cases h⟩
  | a :: L, s => by
    have ih := foldl_markPrepared L (markPrepared s a.2.1)
    have h0 := markPrepared_evolves s a.2.1
    simp only [List.foldl_cons]
    refine ⟨h0.trans ih.1, fun x hx hv => ?_⟩
    rcases List.mem_cons.1 hx with h | h
    · subst h
      obtain ⟨e, he⟩ := hv
      obtain ⟨e1, he1, hp1⟩ := markPrepared_at s x.2.1 e he
      obtain ⟨e2, he2, _, hp2, _⟩ := ih.1.2.2 _ e1 he1
      exact ⟨e2, he2, hp2 hp1⟩
    · obtain ⟨e, he⟩ := hv
      obtain ⟨e1, he1, _⟩ := h0.2.2 _ e he
      exact ih.2 x h ⟨e1, he1⟩

/-- one request; a history is a `List Op` -/
inductive Op where
  | fill (qs : List Quad) | prepareAll (qs : List Quad) | computeAll (split : Bool)
  | lookup (q : Quad) | prepare (q : Quad) | compute (q : Quad)

def step (clears : Bool) (n : Nat) (s : State) : Op → State
  | .fill qs => fill clears n s qs
  | .prepareAll qs => prepareAll clears n s qs
  | .computeAll split => (computeAll split s).1
  | .lookup q => (lookup s q).1
  | .prepare q => let r := lookup s q; markPrepared r.1 r.2.1
  | .compute q => let r := lookup s q; (computeElem r.1 r.2.1).getD r.1

def run (clears : Bool) (n : Nat) (s : State) (ops : List Op) : State :=
  ops.foldl (step clears n) s

/-- every entry of `ElementsMap` points to an existing element and evaluates to chi of its key -/
def WF {V} [AddCommGroup V] (F : ChiFamily V) (s : State) : Prop :=
  ∀ x ∈ s.emap, ∃ e : Elem, s.elems[x.2.1]? = some e ∧ Good F e.quad x.1 x.2.2

theorem WF_evolves {V} [AddCommGroup V] (F : ChiFamily V) {s s' : State} (h : Evolves s s')
    (hw : WF F s) : WF F s' := by
  intro x hx
  rw [h.1] at hx
  obtain ⟨e, he, hg⟩ := hw x hx
  obtain ⟨e', he', hq, _, _⟩ := h.2.2 _ e he
  exact ⟨e', he', hq ▸ hg⟩

theorem WF_set {V} [AddCommGroup V] (F : ChiFamily V) (s : State) (q : Quad) (hw : WF F s) :
    WF F (set s q).1 := by
  obtain ⟨i, j, k, l⟩ := q
  intro x hx
  rw [set_elems]
  have hnew : (s.elems ++ [({ quad := (i,j,k,l) } : Elem)])[s.elems.length]? =
      some { quad := (i,j,k,l) } := List.getElem?_concat_length
  rcases set_mem s i j k l x hx with h | h | h | h | h
  · obtain ⟨e, he, hg⟩ := hw x h
    exact ⟨e, Pomerol.Spec.getElem?_append_of_eq_some he _, hg⟩
  · subst h
    exact ⟨_, hnew, (entry_good F i j k l).1⟩
  · subst h
    exact ⟨_, hnew, (entry_good F i j k l).2.1⟩
  · subst h
    exact ⟨_, hnew, (entry_good F i j k l).2.2.1⟩
  · subst h
    exact ⟨_, hnew, (entry_good F i j k l).2.2.2⟩

theorem WF_fill {V} [AddCommGroup V] (F : ChiFamily V) (clears : Bool) (n : Nat) (s : State)
    (qs : List Quad) : WF F (fill clears n s qs) := by
  unfold fill
  refine List.foldlRecOn (motive := WF F) _ _ (fun x hx => by cases hx) fun st hst q _ => ?_
  split
  · exact hst
  · exact WF_set F st q hst

theorem computeAll_false (s : State) :
    computeAll false s = computeList (s.emap.map (·.2.1)) s := rfl

theorem computeAll_true (s : State) :
    computeAll true s = computeList (s.nontriv.map (·.2)) s := rfl

theorem computeAll_evolves (split : Bool) (s : State) : Evolves s (computeAll split s).1 := by
  unfold computeAll
  split <;> exact computeList_evolves _ _

theorem lookup_eq (s : State) (q : Quad) :
    lookup s q = match lookupMap s.emap q with
      | some (id, perm) => (s, id, perm)
      | none => ((set s q).1, (set s q).2, 0) := by
  unfold lookup
  cases lookupMap s.emap q with
  | none => rfl
  | some v => rfl

theorem WF_lookup {V} [AddCommGroup V] (F : ChiFamily V) (s : State) (q : Quad) (hw : WF F s) :
    WF F (lookup s q).1 := by
  rw [lookup_eq]
  split
  · exact hw
  · exact WF_set F s q hw

theorem WF_run {V} [AddCommGroup V] (F : ChiFamily V) (clears : Bool) (n : Nat) (s : State)
    (ops : List Op) (hw : WF F s) : WF F (run clears n s ops) := by
  unfold run
  refine List.foldlRecOn (motive := WF F) _ _ hw fun st hst op _ => ?_
  cases op with
  | fill qs => exact WF_fill F clears n st qs
  | prepareAll qs => exact WF_evolves F (foldl_markPrepared _ _).1 (WF_fill F clears n st qs)
  | computeAll split => exact WF_evolves F (computeAll_evolves split st) hst
  | lookup q => exact WF_lookup F st q hst
  | prepare q => exact WF_evolves F (markPrepared_evolves _ _) (WF_lookup F st q hst)
  | compute q =>
    show WF F ((computeElem (lookup st q).1 (lookup st q).2.1).getD (lookup st q).1)
    cases hc : computeElem (lookup st q).1 (lookup st q).2.1 with
    | none => exact WF_lookup F st q hst
    | some s' => exact WF_evolves F (computeElem_evolves _ _ _ hc) (WF_lookup F st q hst)

/-- whatever was filled, requested, prepared or computed before, in whatever order and
however often, and whether the entry is the stored element or an alias, looking up a quadruple
yields an entry that evaluates to chi of that quadruple (the element's status only decides whether
the C++ code evaluates or throws) -/
theorem lookup_value_any_history {V} [AddCommGroup V] (F : ChiFamily V) (clears : Bool) (n : Nat)
    (ops : List Op) (q : Quad) (n1 n2 n3 : Int) :
    let r := lookup (run clears n {} ops) q
    ∃ e, r.1.elems[r.2.1]? = some e ∧
      entryValue F e.quad r.2.2 n1 n2 n3 = some (F.chi q n1 n2 n3) := by
  have hw : WF F (run clears n {} ops) := WF_run F clears n {} ops (fun x hx => by cases hx)
  generalize run clears n {} ops = S at hw ⊢
  dsimp only
  rw [lookup_eq]
  cases hl : lookupMap S.emap q with
  | some v =>
    obtain ⟨id, perm⟩ := v
    obtain ⟨e, he, hg⟩ := hw _ (lookupMap_some _ _ _ hl)
    exact ⟨e, he, hg n1 n2 n3⟩
  | none =>
    obtain ⟨i, j, k, l⟩ := q
    refine ⟨{ quad := (i,j,k,l) }, ?_, ?_⟩
    · simp only [set_elems, set_id]
      exact List.getElem?_concat_length
    · exact (entry_good F i j k l).1 n1 n2 n3

/-- invariant of the loop of `fill` when both maps have been cleared: every registered element
exists, the elements of `ElementsMap` and of `NonTrivialElements` are the same, and every key of
`NonTrivialElements` is a key of `ElementsMap` for the same element -/
def FI (s : State) : Prop :=
  (∀ x ∈ s.emap, ∃ e : Elem, s.elems[x.2.1]? = some e) ∧
  (∀ x ∈ s.emap, ∃ y ∈ s.nontriv, y.2 = x.2.1) ∧
  (∀ y ∈ s.nontriv, ∃ x ∈ s.emap, x.1 = y.1 ∧ x.2.1 = y.2)

theorem FI_set (s : State) (q : Quad) (hq : (lookupMap s.emap q).isSome = false) (h : FI s) :
    FI (set s q).1 := by
  obtain ⟨h1, h2, h3⟩ := h
  have hkey := lookupMap_none _ _ hq
  have hkey' : ∀ y ∈ s.nontriv, y.1 ≠ q := by
    intro y hy
    obtain ⟨x, hx, hxy, _⟩ := h3 y hy
    exact hxy ▸ hkey x hx
  have hself : (q, s.elems.length) ∈ (set s q).1.nontriv := by
    rw [set_nontriv]; exact mem_ins_self _ _ _ hkey'
  have hnew : ((set s q).1.elems)[s.elems.length]? = some { quad := q } := by
    rw [set_elems]; exact List.getElem?_concat_length
  obtain ⟨i, j, k, l⟩ := q
  refine ⟨?_, ?_, ?_⟩
  · intro x hx
    rcases set_mem s i j k l x hx with h | h | h | h | h
    · obtain ⟨e, he⟩ := h1 x h
      exact ⟨e, by rw [set_elems]; exact Pomerol.Spec.getElem?_append_of_eq_some he _⟩
    all_goals (subst h; exact ⟨_, hnew⟩)
  · intro x hx
    rcases set_mem s i j k l x hx with h | h | h | h | h
    · obtain ⟨y, hy, hyx⟩ := h2 x h
      exact ⟨y, by rw [set_nontriv]; exact mem_ins_of_mem _ _ _ _ hy, hyx⟩
    all_goals (subst h; exact ⟨_, hself, rfl⟩)
  · intro y hy
    rw [set_nontriv] at hy
    rcases mem_ins _ _ _ _ hy with h | h
    · obtain ⟨x, hx, hxy⟩ := h3 y h
      exact ⟨x, set_mono _ _ _ hx, hxy⟩
    · subst h
      exact ⟨_, set_mem_self s (i,j,k,l) hkey, rfl, rfl⟩

theorem FI_fill (n : Nat) (s : State) (qs : List Quad) : FI (fill true n s qs) := by
  unfold fill
  refine List.foldlRecOn (motive := FI) _ _ ?_ fun st hst q _ => ?_
  · exact ⟨fun x hx => (by cases hx), fun x hx => (by cases hx), fun y hy => (by simp at hy)⟩
  · split
    · exact hst
    · next hq => exact FI_set st q (by simpa using hq) hst

theorem prepareAll_prepared (n : Nat) (s : State) (qs : List Quad) :
    (∀ x ∈ (prepareAll true n s qs).emap, ∃ e : Elem,
      (prepareAll true n s qs).elems[x.2.1]? = some e ∧ e.prepared = true) ∧
    (∀ x ∈ (prepareAll true n s qs).emap, ∃ y ∈ (prepareAll true n s qs).nontriv, y.2 = x.2.1) ∧
    (∀ y ∈ (prepareAll true n s qs).nontriv, ∃ x ∈ (prepareAll true n s qs).emap, x.2.1 = y.2) := by
  rw [prepareAll_eq]
  obtain ⟨h1, h2, h3⟩ := FI_fill n s qs
  obtain ⟨hst, hp⟩ := foldl_markPrepared (fill true n s qs).emap (fill true n s qs)
  rw [hst.1, hst.2.1]
  refine ⟨fun x hx => hp x hx (h1 x hx), h2, fun y hy => ?_⟩
  obtain ⟨x, hx, _, hxy⟩ := h3 y hy
  exact ⟨x, hx, hxy⟩

/-- after a bulk preparation followed by a bulk computation (split or not) every listed entry is
evaluable, for any earlier history -- with `fill` clearing both maps, as the source now does -/
theorem listed_elements_evaluable_after_bulk (n : Nat) (ops : List Op) (qs : List Quad)
    (split : Bool) :
    let s1 := prepareAll Pomerol.Gen.Core.fillClearsNonTrivial n
      (run Pomerol.Gen.Core.fillClearsNonTrivial n {} ops) qs
    (computeAll split s1).2 = true ∧
      ∀ x ∈ (computeAll split s1).1.emap, evaluable (computeAll split s1).1 x.2.1 = true := by
  have hflag : Pomerol.Gen.Core.fillClearsNonTrivial = true := by decide
  rw [hflag]
  intro s1
  obtain ⟨hp, h2, h3⟩ := prepareAll_prepared n (run true n {} ops) qs
  have hemap : (computeAll split s1).1.emap = s1.emap := (computeAll_evolves split s1).1
  rw [hemap]
  cases split with
  | false =>
    have hok := computeList_ok (s1.emap.map (·.2.1)) s1 (by
      intro id hid
      obtain ⟨x, hx, rfl⟩ := List.mem_map.1 hid
      exact hp x hx)
    rw [computeAll_false]
    exact ⟨hok.1, fun x hx => hok.2 _ (List.mem_map.2 ⟨x, hx, rfl⟩)⟩
  | true =>
    have hok := computeList_ok (s1.nontriv.map (·.2)) s1 (by
      intro id hid
      obtain ⟨y, hy, rfl⟩ := List.mem_map.1 hid
      obtain ⟨x, hx, hxy⟩ := h3 y hy
      exact hxy ▸ hp x hx)
    rw [computeAll_true]
    refine ⟨hok.1, fun x hx => ?_⟩
    obtain ⟨y, hy, hyx⟩ := h2 x hx
    exact hyx ▸ hok.2 _ (List.mem_map.2 ⟨y, hy, rfl⟩)

/-- regression (the defect that was fixed): when `fill` does not clear `NonTrivialElements`, the
history prepareAll; prepareAll; computeAll(split) leaves a listed element unevaluable -/
theorem stale_nontrivial_was_wrong :
    let s := run false 2 {} [.prepareAll [(0,1,1,0)], .prepareAll [(0,1,1,0)], .computeAll true]
    ∃ x ∈ s.emap, evaluable s x.2.1 = false := by
  decide

open Pomerol.Spec in
/-- the first exchange symmetry holds for the definition of chi (signed sum over the six time
orderings) and for its Lehmann form: exchanging the two annihilators together with their
frequencies flips the sign -/
theorem exchange_first_pair {ι : Type} [Fintype ι] [DecidableEq ι] (d : EigenData ι)
    (O : Fin 3 → Matrix ι ι ℂ) (X : Matrix ι ι ℂ) (z : Fin 3 → ℂ) :
    d.chiDef ![O 1, O 0, O 2] X ![z 1, z 0, z 2] = - d.chiDef O X z ∧
    d.chiLehmann ![O 1, O 0, O 2] X ![z 1, z 0, z 2] = - d.chiLehmann O X z :=
  ⟨chiDef_swap01 d O X z, chiLehmann_swap01 d O X z⟩

open Pomerol.Spec in
/-- the second exchange symmetry: χ_{ijlk}(ω₁,ω₂;ω₁+ω₂−ω₃) = −χ_{ijkl}(ω₁,ω₂;ω₃).

With `O 0 = c_i`, `O 1 = c_j`, `O 2 = c†_k`, `X = c†_l`, `z 0 = iω₁`, `z 1 = iω₂`, `z 2 = −iω₃`:
exchanging the third operator `c†_k` with the fourth one `c†_l` (the one at time 0), the third
frequency becoming the frequency carried by the fourth operator, `−(z 0 + z 1 + z 2) = −iω₄` with
`ω₄ = ω₁+ω₂−ω₃`, flips the sign -- both for the definition of chi (signed sum over the six
time-ordered simplex integrals) and for its Lehmann form (what the library evaluates).  It holds
for every spectrum (degenerate or not: all resonance classes of the multi-term), every β > 0, all
matrices and all frequencies with `e^{βz} = −1` (the fermionic Matsubara frequencies, see
`exchange_second_pair_matsubara`).  Unlike the first exchange symmetry this is not a relabelling of
the time orderings: it rests on the cyclicity of the trace and the fermionic antiperiodicity
(`Pomerol.Spec.multiTerm_rotate`, `Pomerol.Spec.orderedLehmann_rotate`). -/
theorem exchange_second_pair {ι : Type} [Fintype ι] [DecidableEq ι] (d : EigenData ι)
    (O : Fin 3 → Matrix ι ι ℂ) (X : Matrix ι ι ℂ) (z : Fin 3 → ℂ)
    (hz : ∀ k, Complex.exp ((d.β:ℂ) * z k) = -1) :
    d.chiDef ![O 0, O 1, X] (O 2) ![z 0, z 1, -(z 0 + z 1 + z 2)] = - d.chiDef O X z ∧
    d.chiLehmann ![O 0, O 1, X] (O 2) ![z 0, z 1, -(z 0 + z 1 + z 2)] = - d.chiLehmann O X z :=
  ⟨chiDef_swap23 d O X z hz, chiLehmann_swap23 d O X z hz⟩

open Pomerol.Spec in
/-- the second exchange symmetry at the Matsubara frequencies numbered (k₁,k₂,k₃): the exchanged
function is taken at (k₁,k₂,k₁+k₂−k₃), which is the arithmetic `fourthNumber` of the container
(this also shows that the hypothesis of `exchange_second_pair` is satisfiable) -/
theorem exchange_second_pair_matsubara {ι : Type} [Fintype ι] [DecidableEq ι] (d : EigenData ι)
    (O : Fin 3 → Matrix ι ι ℂ) (X : Matrix ι ι ℂ) (k1 k2 k3 : ℤ) :
    d.chiDef ![O 0, O 1, X] (O 2)
        ![Complex.I * (d.ω k1 : ℂ), Complex.I * (d.ω k2 : ℂ),
          -(Complex.I * (d.ω (Pomerol.Gen.Core.fourthNumber k1 k2 k3) : ℂ))]
      = - d.chiDef O X
        ![Complex.I * (d.ω k1 : ℂ), Complex.I * (d.ω k2 : ℂ), -(Complex.I * (d.ω k3 : ℂ))] :=
  chiDef_swap23_matsubara d O X k1 k2 k3

open Pomerol.Spec in
/-- The abstract `ChiFamily` used for the container is inhabited by the definition of chi: for any
eigen-data and any families `c`, `cd` of matrices (annihilators / creators in the eigenbasis), the
function (i,j,k,l), (n₁,n₂,n₃) ↦ χ_{ijkl}(ω_{n₁},ω_{n₂};ω_{n₃}) has both exchange symmetries. -/
noncomputable def chiFamilyOfDef {ι : Type} [Fintype ι] [DecidableEq ι] (d : EigenData ι)
    (c cd : Nat → Matrix ι ι ℂ) : ChiFamily ℂ where
  chi q n1 n2 n3 := d.chiDef ![c q.1, c q.2.1, cd q.2.2.1] (cd q.2.2.2)
    ![Complex.I * (d.ω n1 : ℂ), Complex.I * (d.ω n2 : ℂ), -(Complex.I * (d.ω n3 : ℂ))]
  sym12 i j k l n1 n2 n3 := by
    have h := chiDef_swap01 d ![c i, c j, cd k] (cd l)
      ![Complex.I * (d.ω n1 : ℂ), Complex.I * (d.ω n2 : ℂ), -(Complex.I * (d.ω n3 : ℂ))]
    simpa using h
  sym34 i j k l n1 n2 n3 := by
    have h := chiDef_swap23_matsubara d ![c i, c j, cd k] (cd l) n1 n2 n3
    simpa using h

/-- sanity, generic class: the cyclic identity of the multi-term on a rational instance
(a₁,a₂,a₃) = (1,2,3), a₄ = −6, arbitrary unrelated weights (1,2,3,4) -/
example : Pomerol.Spec.mtCore 7 2 3 (-6) 2 3 4 1 = - Pomerol.Spec.mtCore 7 1 2 3 1 2 3 4 := by
  unfold Pomerol.Spec.mtCore
  norm_num

/-- sanity, resonant class a₁+a₂ = 0 (weights w₃ = w₁): (a₁,a₂,a₃) = (1,−1,2), a₄ = −2, β = 3 -/
example : Pomerol.Spec.mtCore 3 (-1) 2 (-2) 7 5 4 5 = - Pomerol.Spec.mtCore 3 1 (-1) 2 5 7 5 4 := by
  unfold Pomerol.Spec.mtCore
  norm_num

/-- sanity, doubly resonant class (w₃ = w₁, w₄ = w₂): (a₁,a₂,a₃) = (2,−2,2), a₄ = −2, β = 3 -/
example : Pomerol.Spec.mtCore 3 (-2) 2 (-2) 7 5 7 5 = - Pomerol.Spec.mtCore 3 2 (-2) 2 5 7 5 7 := by
  unfold Pomerol.Spec.mtCore
  norm_num

/-- sanity: on the resonance the weight relation is needed (with w₃ ≠ w₁ the identity fails) -/
example : Pomerol.Spec.mtCore 3 (-1) 2 (-2) 7 6 4 5 ≠ - Pomerol.Spec.mtCore 3 1 (-1) 2 5 7 6 4 := by
  unfold Pomerol.Spec.mtCore
  norm_num

end Pomerol.Properties.C13
