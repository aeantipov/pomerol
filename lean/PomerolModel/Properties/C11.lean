/-
  Property C11: analytic properties of the single-particle Green's function as the library
  evaluates it, in the frequency and in the imaginary-time domain.

  Setting: `d : EigenData ι` is the eigen-system (β > 0, eigenvalues `d.E`, Gibbs weights `d.w`,
  density matrix `d.ρ`); `C`, `CX` are the matrices of the two operators (`c_i` and `c†_j`) in the
  eigenbasis.  `d.lehmannG C CX z = Σ_{n,m} R_nm / (z − P_nm)` with residues
  `R_nm = d.res C CX n m = C_nm CX_mn (w_n + w_m)` and poles `P_nm = d.pole n m = E_m − E_n` is the
  value the library's formulas give (`Spec/Bridge.lean: gf_sum`), `d.Gtau C CX τ` is the sum of the
  library's imaginary-time terms, `d.corr C CX τ = Tr(ρ e^{τH} C e^{−τH} CX)` is the correlator
  defined with genuine matrix exponentials.

  All statements are re-exports / direct combinations of theorems of `Spec/GFProps.lean`,
  `Spec/Lehmann.lean`, `Spec/Bridge.lean`.
-/
import PomerolModel.Spec.Bridge

namespace Pomerol.Properties.C11
open Matrix Complex Filter Topology Pomerol Pomerol.Spec

variable {ι : Type} [Fintype ι] [DecidableEq ι]

/-- (a) Conjugation symmetry `conj G_ij(z) = G_ji(conj z)`: for the operators `C = c_i`, `D = c_j`
(so `G_ij` is built from `C` and `D†`, `G_ji` from `D` and `C†`), every complex `z`, every
spectrum. -/
theorem conj_symmetry (d : EigenData ι) (C D : Matrix ι ι ℂ) (z : ℂ) :
    (starRingEnd ℂ) (d.lehmannG C Dᴴ z) = d.lehmannG D Cᴴ ((starRingEnd ℂ) z) :=
  conj_symm d C D z

/-- (b) Sum rule: the residues of all Lehmann terms add up to `Tr(ρ {c_i, c†_j})` (for any two
matrices); hence, if the two matrices satisfy the canonical anticommutation relation
`C·CX + CX·C = δ·1` (`δ = δ_ij`), the residues add up to `δ`. -/
theorem residue_sum_rule [Nonempty ι] (d : EigenData ι) (C CX : Matrix ι ι ℂ) :
    (∑ n, ∑ m, d.res C CX n m = (d.ρ * (C * CX + CX * C)).trace) ∧
    ∀ δ : ℂ, C * CX + CX * C = δ • (1 : Matrix ι ι ℂ) → ∑ n, ∑ m, d.res C CX n m = δ :=
  ⟨residue_sum_trace d C CX, fun δ hcar => residue_sum_car d C CX δ hcar⟩

/-- (c) High-frequency tail: `z · G(z) → Σ residues` as `|z| → ∞` (in any direction of the complex
plane); with (b) this is the `δ_ij / z` tail. -/
theorem high_frequency_tail (d : EigenData ι) (C CX : Matrix ι ι ℂ) :
    Tendsto (fun z : ℂ => z * d.lehmannG C CX z) (Bornology.cobounded ℂ)
      (𝓝 (∑ n, ∑ m, d.res C CX n m)) :=
  tail d C CX

/-- (d) The diagonal Green's function has a strictly negative imaginary part on the positive
imaginary axis: `Im G_ii(iω) < 0` for every real `ω > 0` (Matsubara or not), given
`{c_i, c†_i} = 1`. -/
theorem imaginary_part_negative [Nonempty ι] (d : EigenData ι) (C : Matrix ι ι ℂ)
    (hcar : C * Cᴴ + Cᴴ * C = 1) (ω : ℝ) (hω : 0 < ω) :
    (d.lehmannG C Cᴴ (I * (ω : ℂ))).im < 0 :=
  im_negative d C hcar ω hω

/-- (e) The imaginary-time value the library computes is minus the correlator,
`G(τ) = −⟨c_i(τ) c†_j(0)⟩ = −Tr(ρ e^{τH} c_i e^{−τH} c†_j)`, for every real `τ`. -/
theorem tau_is_minus_correlator (d : EigenData ι) (C CX : Matrix ι ι ℂ) (τ : ℝ) :
    d.Gtau C CX τ = -d.corr C CX τ :=
  Gtau_eq_corr d C CX τ

/-- (f) The diagonal imaginary-time Green's function is real and non-positive:
`Im G_ii(τ) = 0` and `Re G_ii(τ) ≤ 0` for every `τ`. -/
theorem tau_nonpositive (d : EigenData ι) (C : Matrix ι ι ℂ) (τ : ℝ) :
    (d.Gtau C Cᴴ τ).im = 0 ∧ (d.Gtau C Cᴴ τ).re ≤ 0 :=
  Gtau_nonpos d C τ

/-- (g) Jump / antiperiodicity: `G_ij(0⁺) + G_ij(β⁻) = −δ_ij`, given the canonical
anticommutation relation `C·CX + CX·C = δ·1`.  (Without the relation the right-hand side is minus
the sum of the residues, `Spec.Gtau_jump`.) -/
theorem tau_jump [Nonempty ι] (d : EigenData ι) (C CX : Matrix ι ι ℂ) (δ : ℂ)
    (hcar : C * CX + CX * C = δ • (1 : Matrix ι ι ℂ)) :
    d.Gtau C CX 0 + d.Gtau C CX d.β = -δ := by
  rw [Gtau_jump, residue_sum_car d C CX δ hcar]

/-- (h) The value at `τ = β` is minus the density-matrix element:
`G_ij(β⁻) = −⟨c†_j c_i⟩ = −Tr(ρ · CX · C)`. -/
theorem tau_beta_is_density (d : EigenData ι) (C CX : Matrix ι ι ℂ) :
    d.Gtau C CX d.β = -(d.ρ * CX * C).trace :=
  Gtau_beta d C CX

/-- (i) Consistency of the two domains: the Fourier transform `∫₀^β G(τ) e^{iω_k τ} dτ` of the
imaginary-time values is the frequency value `G(iω_k)` at every fermionic Matsubara frequency
(every `k : ℤ`). -/
theorem tau_frequency_duality (d : EigenData ι) (C CX : Matrix ι ι ℂ) (k : ℤ) :
    ∫ τ in (0:ℝ)..d.β, d.Gtau C CX τ * Complex.exp (I * (d.ω k : ℂ) * (τ:ℂ))
      = d.lehmannG C CX (I * (d.ω k : ℂ)) :=
  Gtau_transform d C CX k

omit [DecidableEq ι] in
/-- (j) The formula extracted from the source for the imaginary-time value of one term -- two
branches, selected by the sign of the pole to avoid overflow of the exponentials -- equals the
single formula `tauTerm β R P τ = −R e^{−τP} / (1 + e^{−βP})` in both branches, for all residues,
poles, `τ`, `β`; consequently the library's terms (extracted residue and pole formulas) summed over
all pairs of eigenstates give `d.Gtau`, the function that (e)–(i) are about. -/
theorem tau_branches_agree :
    (∀ (res : ℂ) (P τ β : ℝ), Gen.GF.termTau res P τ β = tauTerm β res P τ) ∧
    ∀ (d : EigenData ι) (C CX : Matrix ι ι ℂ) (τ : ℝ),
      (∑ n, ∑ m, Gen.GF.termTau (Gen.GF.residue (C n m) (CX m n) (d.w n) (d.w m))
          (Gen.GF.pole (d.E m) (d.E n)) τ d.β) = d.Gtau C CX τ := by
  refine ⟨Bridge.gf_tau, fun d C CX τ => ?_⟩
  unfold EigenData.Gtau
  refine Finset.sum_congr rfl fun n _ => Finset.sum_congr rfl fun m _ => ?_
  rw [Bridge.gf_tau]
  simp only [Gen.GF.residue, Gen.GF.pole, EigenData.res, EigenData.pole, Bridge.ofReal_eq,
    Complex.ofReal_add]

/-- Concrete instance of (j): at pole 0 and `τ = 0` the extracted formula gives `−R/2` (the
"else" branch is taken and agrees with the closed form). -/
example (R : ℂ) (β : ℝ) : Gen.GF.termTau R 0 0 β = -R / 2 := by
  rw [tau_branches_agree (ι := Unit) |>.1]
  unfold tauTerm
  norm_num

end Pomerol.Properties.C11
