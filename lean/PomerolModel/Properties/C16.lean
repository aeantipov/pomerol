/-
  Property C16: the job dispatcher runs every job exactly once and always terminates.

  Model: `Model/Dispatcher.lean` (transition system of mpi_skel::run / MPIMaster / MPIWorker; a step
  = one rank performs its next `request::test()` with a given outcome).  The theorems quantify over
  every number of ranks `P ≥ 1`, every job list without repetitions (including the empty one and
  lists shorter than the number of workers), and every schedule -- every interleaving of the ranks
  and every delay of message visibility.  The inductive invariant and its proof are in
  `Spec/DispatcherInv.lean` and, for the worker pool, `Spec/DispatcherPool.lean`.  Several consecutive
  rounds on one communicator are independent because a finished round leaves no message behind
  (`no_leaked_messages`).
-/
import PomerolModel.Spec.DispatcherInv

namespace Pomerol.Properties.C16
open Pomerol.Model.Disp Pomerol.Spec.Disp Pomerol.Spec.Sched

set_option linter.unusedVariables false in
/-- In every reachable state no job has been executed twice, and only jobs of this round, on ranks
of this communicator, have been executed. -/
theorem every_job_at_most_once (P : Nat) (jobs : List Nat) (hP : 0 < P) (hnd : jobs.Nodup) (s : Sys)
    (h : Reachable P jobs s) : (s.log.map (·.1)).Nodup ∧ ∀ x ∈ s.log, x.1 ∈ jobs ∧ x.2 < P :=
  (reachable_pool P jobs hnd s h).at_most_once

/-- Once every rank has left the dispatch loop each job of the round has been executed exactly once. -/
theorem every_job_exactly_once_at_exit (P : Nat) (jobs : List Nat) (hP : 0 < P) (hnd : jobs.Nodup)
    (s : Sys) (h : Reachable P jobs s) (hf : allExited s = true) :
    ∀ j ∈ jobs, (s.log.filter (·.1 = j)).length = 1 :=
  (reachable_pool P jobs hnd s h).once_at_exit hP (all_exited hf)

/-- The job-to-rank map (the same object is broadcast to all ranks) names, for every executed job,
the rank that actually ran it; at exit it is defined exactly on the jobs of the round. -/
theorem map_names_executing_rank (P : Nat) (jobs : List Nat) (hP : 0 < P) (hnd : jobs.Nodup) (s : Sys)
    (h : Reachable P jobs s) :
    (∀ x ∈ s.log, dmapGet s.m.dmap x.1 = some x.2) ∧
    (allExited s = true → ∀ j, (dmapGet s.m.dmap j).isSome ↔ j ∈ jobs) :=
  ⟨(reachable_pool P jobs hnd s h).dmap_truth hnd,
    fun hf => ((reachable_pool P jobs hnd s h).final hP (all_exited hf)).2.1⟩

/-- A finished round leaves no message in any channel and no active receive: consecutive rounds on
the same communicator do not interfere. -/
theorem no_leaked_messages (P : Nat) (jobs : List Nat) (hP : 0 < P) (hnd : jobs.Nodup) (s : Sys)
    (h : Reachable P jobs s) (hf : allExited s = true) :
    (∀ d ∈ s.down, d = []) ∧ (∀ u ∈ s.up, u = 0) ∧ (∀ w ∈ s.m.wait, w = false) :=
  ((reachable_pool P jobs hnd s h).final hP (all_exited hf)).2.2

/-- No deadlock: from every reachable state the round can be completed (every rank leaves the loop). -/
theorem no_deadlock (P : Nat) (jobs : List Nat) (hP : 0 < P) (hnd : jobs.Nodup) (s : Sys)
    (h : Reachable P jobs s) : ∃ sched s', run s sched = some s' ∧ allExited s' = true := by
  -- rank 0 finishes its loop iteration; from the top of the loop `progress` applies until everybody has left
  obtain ⟨s1, hr1, hi1, hn1, _⟩ := to_next0 P jobs hP hnd s (reachable_inv P jobs hnd s h)
  exact exists_run_done reach_iff (progress P jobs hP hnd) s1 hi1 hn1 s hr1

set_option linter.unusedVariables false in
/-- Termination measure: no step increases it and every reception of a message strictly decreases
it, so every execution contains only finitely many receptions; together with `no_deadlock` and the
MPI progress assumption (a sent message is eventually seen) every rank leaves the loop. -/
theorem finitely_many_receptions (P : Nat) (jobs : List Nat) (hP : 0 < P) (hnd : jobs.Nodup)
    (s s' : Sys) (r : Nat) (b : Bool) (h : Reachable P jobs s) (hs : step s r b = some s') :
    measure s' ≤ measure s ∧ (b = true → measure s' < measure s) :=
  measure_step s s' r b hs

/-- Non-vacuity: a concrete round (2 ranks, 3 jobs) under a concrete schedule with delays reaches a
final state in which the hypotheses of the theorems above hold. -/
example : (run (init 2 [0, 1, 2]) [(0, true), (1, false), (0, true), (1, true), (0, true), (1, true),
    (0, false), (1, false), (0, false), (1, false), (0, true), (1, false), (0, true), (1, true),
    (0, false), (0, false)]).map
      (fun s => (allExited s, s.log)) = some (true, [(0, 0), (1, 1), (2, 1)]) := by
  decide

end Pomerol.Properties.C16
