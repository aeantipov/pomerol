/-
  Property C20: lattice input is validated, stored and looked up faithfully.

  Model: `Model/Lattice.lean` (model of `Lattice`, `Lattice::TermStorage`, `Lattice::Term::Presets`
  and `LatticePresets`; the operator sequences, index arrays, coefficient expressions, argument guards
  of every preset and the direction of the test in `Lattice::getSite` are regenerated from the C++
  source into `Generated/Presets.lean`).  Specification predicates, written by hand and independent
  of the source: `Model/LatticeSpec.lean` (`validTerm`: every factor names a known site and an
  orbital and spin inside that site's range; `defined…`: the arguments for which the documentation
  defines each preset; `allValid`: every stored term is valid).  Proofs: `Spec/LatticeProps.lean`.

  `SitesOK L` / `TermsOK L` say that the two containers are what a `std::map` is: keys strictly
  increasing (in particular no label twice).  They hold for the empty lattice and are preserved by
  every operation (`containers_well_formed`), so they hold for every lattice a program can build.
  The coefficient type is arbitrary; `NonzeroTest.nz` is the test "the amplitude is not zero" as the
  library performs it.
-/
import PomerolModel.Spec.LatticeProps
import PomerolModel.Model.Index

set_option linter.unusedSectionVars false

namespace Pomerol.Properties.C20
open Pomerol.Model Pomerol.Model.Lat Pomerol.Model.LatSpec Pomerol.Spec.LatticeProps

variable {K : Type} [Add K] [Sub K] [Mul K] [Div K] [Neg K] [Zero K] [One K] [NatCast K]
  [NonzeroTest K]

/-- The two `std::map`s of a lattice (sites by label, term lists by order) have strictly increasing
keys: this holds for the empty lattice and is preserved by `addSite` and by storing a term. -/
theorem containers_well_formed :
    (SitesOK (Lat.empty : Lattice K) ∧ TermsOK (Lat.empty : Lattice K)) ∧
    (∀ (L : Lattice K), SitesOK L → ∀ (l : String) (o s : Nat), SitesOK (addSite L l o s)) ∧
    (∀ (L : Lattice K), TermsOK L → ∀ t : Term K, TermsOK (storeTerm L t)) :=
  ⟨empty_ok, fun L h l o s => addSite_ok L h l o s, fun L h t => storeTerm_ok L h t⟩

/-- `getSite` returns the site that was added under that label (with the sizes given last), and
adding a site under one label does not change what `getSite` returns for any other label. -/
theorem site_lookup (L : Lattice K) (h : SitesOK L) (l : String) (o s : Nat) :
    getSite (addSite L l o s) l = .ok ⟨l, o, s⟩ ∧
    ∀ l', l' ≠ l → getSite (addSite L l o s) l' = getSite L l' :=
  ⟨getSite_after_addSite L h l o s, fun l' hne => getSite_other L l l' o s hne⟩

/-- `getSite` with a label that is not in the lattice throws `exWrongLabel` (it does not return
garbage and does not dereference `end()`). -/
theorem unknown_site_fails (L : Lattice K) (l : String) (h : siteOf L l = none) :
    getSite L l = .error .wrongLabel :=
  getSite_unknown L l h

/-- `addTerm` with a term that is not valid (unknown label, or an orbital or spin out of the site's
range) throws `exWrongLabel`.  The result is an error value: no modified lattice exists, the caller
keeps the lattice it had. -/
theorem invalid_term_rejected_unchanged (L : Lattice K) (t : Term K) (h : validTerm L t = false) :
    addTerm L t = .error .wrongLabel ∧ ∀ L', addTerm L t ≠ .ok L' := by
  have h1 := addTerm_invalid L t h
  refine ⟨h1, fun L' h2 => ?_⟩
  rw [h1] at h2
  cases h2

/-- A valid term whose amplitude fails the non-zero test is accepted and ignored: the lattice is
returned as it was. -/
theorem zero_term_ignored (L : Lattice K) (hS : SitesOK L) (t : Term K) (h : validTerm L t = true)
    (hz : NonzeroTest.nz t.value = false) : addTerm L t = .ok L :=
  addTerm_zero L hS t h hz

/-- A valid term with non-zero amplitude is stored: it is appended to the list of terms of its own
order, the lists of the other orders and the sites are unchanged, and the maximal order is
updated. -/
theorem valid_term_stored (L : Lattice K) (hS : SitesOK L) (hT : TermsOK L) (t : Term K)
    (h : validTerm L t = true) (hz : NonzeroTest.nz t.value = true) :
    ∃ L', addTerm L t = .ok L' ∧
      (∀ n, getTerms L' n = if n = t.order then getTerms L n ++ [t] else getTerms L n) ∧
      L'.sites = L.sites ∧ L'.maxOrder = max L.maxOrder t.order :=
  ⟨storeTerm L t, addTerm_valid L hS t h hz, fun n => getTerms_storeTerm L hT t n,
    storeTerm_sites L t, maxOrder_storeTerm L t⟩

/-- `getTerms(N)` returns exactly the terms of order `N` that were stored, in the order in which
they were stored: storing `t` appends it to `getTerms (order of t)` and changes no other list. -/
theorem terms_retrievable_by_order (L : Lattice K) (h : TermsOK L) (t : Term K) (n : Nat) :
    getTerms (storeTerm L t) n = if n = t.order then getTerms L n ++ [t] else getTerms L n :=
  getTerms_storeTerm L h t n

/-- A preset that returns normally was called with arguments for which it is documented: they satisfy
the hand-written definedness predicate of the specification.  Only this direction is proved, not that
the preset returns normally for all such arguments.  (The predicates: the site(s) exist; orbital and
spin arguments are in range; Kanamori needs ≥ 2 orbitals and ≥ 2 spins; magnetisation and exchange
need spin 1/2; two-site presets need sites of equal shape; spin-flip and pair hopping need two
different orbitals and two different spins). -/
theorem presets_reject_undefined_arguments :
    (∀ (L L' : Lattice K) (l : String) (U lv : K),
      addCoulombS L l U lv = .ok L' → definedOnSite L l = true) ∧
    (∀ (L L' : Lattice K) (l : String) (lv : K),
      addLevel L l lv = .ok L' → definedOnSite L l = true) ∧
    (∀ (L L' : Lattice K) (l : String) (U Up J lv : K),
      addCoulombP L l U Up J lv = .ok L' → definedCoulombP L l = true) ∧
    (∀ (L L' : Lattice K) (l : String) (m : K),
      addMagnetization L l m = .ok L' → definedMagnetization L l = true) ∧
    (∀ (L L' : Lattice K) (l1 l2 : String) (J : K),
      addSzSz L l1 l2 J = .ok L' → definedExchange L l1 l2 = true) ∧
    (∀ (L L' : Lattice K) (l1 l2 : String) (J : K),
      addSS L l1 l2 J = .ok L' → definedExchange L l1 l2 = true) ∧
    (∀ (cj : K → K) (L L' : Lattice K) (l1 l2 : String) (t : K),
      addHoppingAll cj L l1 l2 t = .ok L' → definedHoppingAll L l1 l2 = true) ∧
    (∀ (cj : K → K) (L L' : Lattice K) (l1 l2 : String) (t : K) (o1 o2 : Nat),
      addHoppingOrb cj L l1 l2 t o1 o2 = .ok L' → definedHoppingOrb L l1 l2 o1 o2 = true) ∧
    (∀ (cj : K → K) (L L' : Lattice K) (l1 l2 : String) (t : K) (o1 o2 s1 s2 : Nat),
      addHoppingFull cj L l1 l2 t o1 o2 s1 s2 = .ok L' →
        definedHoppingFull L l1 l2 o1 o2 s1 s2 = true) ∧
    (∀ (l : String) (v : K) (o1 o2 s1 s2 : Nat) (t : Term K),
      tSpinflip l v o1 o2 s1 s2 = .ok t → definedSpinflip o1 o2 s1 s2 = true) ∧
    (∀ (l : String) (v : K) (o1 o2 s1 s2 : Nat) (t : Term K),
      tPairHopping l v o1 o2 s1 s2 = .ok t → definedSpinflip o1 o2 s1 s2 = true) :=
  ⟨addCoulombS_defined, addLevel_defined, addCoulombP_defined, addMagnetization_defined,
    addSzSz_defined, addSS_defined, addHoppingAll_defined, addHoppingOrb_defined,
    addHoppingFull_defined, tSpinflip_defined, tPairHopping_defined⟩

/-- Every preset stores only valid terms: if every term of the lattice is valid before the call and
the preset returns normally, every term of the resulting lattice is valid (so the translation to the
Hamiltonian never meets a factor without an index). -/
theorem presets_store_only_valid_terms :
    (∀ (L L' : Lattice K) (l : String) (U lv : K), allValid L = true →
      addCoulombS L l U lv = .ok L' → allValid L' = true) ∧
    (∀ (L L' : Lattice K) (l : String) (lv : K), allValid L = true →
      addLevel L l lv = .ok L' → allValid L' = true) ∧
    (∀ (L L' : Lattice K) (l : String) (U Up J lv : K), allValid L = true →
      addCoulombP L l U Up J lv = .ok L' → allValid L' = true) ∧
    (∀ (L L' : Lattice K) (l : String) (m : K), allValid L = true →
      addMagnetization L l m = .ok L' → allValid L' = true) ∧
    (∀ (L L' : Lattice K) (l1 l2 : String) (J : K), allValid L = true →
      addSzSz L l1 l2 J = .ok L' → allValid L' = true) ∧
    (∀ (L L' : Lattice K) (l1 l2 : String) (J : K), allValid L = true →
      addSS L l1 l2 J = .ok L' → allValid L' = true) ∧
    (∀ (cj : K → K) (L L' : Lattice K) (l1 l2 : String) (t : K) (o1 o2 s1 s2 : Nat),
      allValid L = true → addHoppingFull cj L l1 l2 t o1 o2 s1 s2 = .ok L' → allValid L' = true) ∧
    (∀ (cj : K → K) (L L' : Lattice K) (l1 l2 : String) (t : K) (o1 o2 : Nat),
      allValid L = true → addHoppingOrb cj L l1 l2 t o1 o2 = .ok L' → allValid L' = true) ∧
    (∀ (cj : K → K) (L L' : Lattice K) (l1 l2 : String) (t : K),
      allValid L = true → addHoppingAll cj L l1 l2 t = .ok L' → allValid L' = true) ∧
    (∀ (L : Lattice K) (t : Term K), allValid L = true → validTerm L t = true →
      allValid (storeTerm L t) = true) :=
  ⟨addCoulombS_allValid, addLevel_allValid, addCoulombP_allValid, addMagnetization_allValid,
    addSzSz_allValid, addSS_allValid, addHoppingFull_allValid, addHoppingOrb_allValid,
    addHoppingAll_allValid, storeTerm_allValid⟩

/-- A copy of a lattice defines the same model.  The copy constructor `Lattice(const Lattice&)`
reproduces the site map, the term storage and the maximal order; any two lattices that agree in
these three data are the same lattice, return the same terms for every order, the same site for
every label, and are translated into the same Hamiltonian for every index table. -/
theorem copy_defines_same_model [CoefTest K] (L L' : Lattice K) (hs : L.sites = L'.sites)
    (ht : L.terms = L'.terms) (hm : L.maxOrder = L'.maxOrder) :
    L = L' ∧
    (∀ n, getTerms L n = getTerms L' n) ∧
    (∀ l, getSite L l = getSite L' l) ∧
    (∀ tbl, Idx.indexHamiltonian L tbl = Idx.indexHamiltonian L' tbl) := by
  have h : L = L' := by
    cases L; cases L'
    simp only [Lattice.mk.injEq]
    exact ⟨hs, ht, hm⟩
  subst h
  exact ⟨rfl, fun _ => rfl, fun _ => rfl, fun _ => rfl⟩

end Pomerol.Properties.C20
