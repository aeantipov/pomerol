/-
  Property C05: the symbolic operator algebra faithfully represents the fermionic algebra.

  Model: `Model/Operator.lean` (faithful model of Operator.h / Operator.cpp: bubble-sort normal ordering
  with sign flips, contractions and vanishing repeated factors; `std::map` arithmetic with near-zero
  erasure; the Jordan-Wigner sign loop of `actRight`).  Tolerance tests in their exact idealisation
  (`negligible` = `= 0`), coefficients in an arbitrary commutative ring.

  "Jordan-Wigner matrices" = the representation `jwRep K` on the free module over Fock states, built
  from the model's own elementary action `actOp` (`Spec/JW.lean`), for which the CAR are *proved*.
  Every theorem holds for all polynomials, all monomial lengths and orders, all Fock states.
-/
import PomerolModel.Generated.CoreFlags
import PomerolModel.Spec.OpAlgebra
import PomerolModel.Spec.OpIndependence
import PomerolModel.Spec.OpTotal

set_option linter.unusedSectionVars false

namespace Pomerol.Properties.C05
open Pomerol.Model Pomerol.Spec
open scoped Pomerol.Spec.Exact

variable {K : Type} [CommRing K] [DecidableEq K]

/-- The library's monomial action *is* a representation of the CAR: `{c_i, c_j} = 0`,
`{c†_i, c†_j} = 0`, `{c_i, c†_j} = δ_ij`. -/
theorem car (i j : Nat) :
    (jwRep K).c i * (jwRep K).c j + (jwRep K).c j * (jwRep K).c i = 0 ∧
    (jwRep K).cd i * (jwRep K).cd j + (jwRep K).cd j * (jwRep K).cd i = 0 ∧
    (jwRep K).c i * (jwRep K).cd j + (jwRep K).cd j * (jwRep K).c i = if i = j then 1 else 0 :=
  ⟨(jwRep K).cc i j, (jwRep K).cdcd i j, (jwRep K).ccd i j⟩

/-- `Operator::actRight(monomial, ket)` computes the action of the operator product. -/
theorem monomial_action (m : Mono) (s : Nat) :
    (jwRep K).mono m (Finsupp.single s 1) =
      (match actMono m s with
       | none => 0
       | some (s', neg) => Finsupp.single s' (if neg then (-1 : K) else 1)) :=
  jw_mono_single K m s

/-- `Operator::actRight(ket)` / `getMatrixElement` return the Jordan-Wigner matrix of the polynomial. -/
theorem polynomial_action [Nontrivial K] (p : Poly K) (bra ket : Nat) :
    listVec (actPoly p ket) = (jwRep K).poly p (Finsupp.single ket 1) ∧
    matrixElement p bra ket = ((jwRep K).poly p (Finsupp.single ket 1)) bra :=
  ⟨actPoly_sem p ket, matrixElement_sem p bra ket⟩

/-- Normal ordering terminates for every monomial and produces only normal-ordered keys. -/
theorem normal_ordering_total (m : Mono) (c : K) (tgt : Poly K) :
    (normalizeInsert m c tgt).isSome ∧
    ∀ t, NormalPoly tgt → normalizeInsert m c tgt = some t → NormalPoly t :=
  ⟨normalizeInsert_isSome m c tgt, fun t ht h => normalizeAux_normal _ m c tgt t ht h⟩

/-- **A\*B**: the matrix of the symbolic product is the product of the matrices (and the product is
always defined). -/
theorem mul_matrix (p q : Poly K) :
    ∃ t, Poly.mul p q = some t ∧ (jwRep K).poly t = (jwRep K).poly p * (jwRep K).poly q := by
  obtain ⟨t, ht⟩ := Option.isSome_iff_exists.mp (mul_isSome p q)
  exact ⟨t, ht, mul_sem (jwRep K) (jw_sq_c K) (jw_sq_cd K) p q t ht⟩

/-- **A+B, A−B, αA, −A, A+α**. -/
theorem add_matrix (p q : Poly K) : (jwRep K).poly (Poly.add p q) = (jwRep K).poly p + (jwRep K).poly q :=
  add_sem _ p q
theorem sub_matrix (p q : Poly K) : (jwRep K).poly (Poly.sub p q) = (jwRep K).poly p - (jwRep K).poly q :=
  sub_sem _ p q
theorem smul_matrix (a : K) (p : Poly K) : (jwRep K).poly (Poly.smul a p) = a • (jwRep K).poly p :=
  smul_sem _ a p
theorem neg_matrix (p : Poly K) : (jwRep K).poly (Poly.neg p) = -(jwRep K).poly p := neg_sem _ p
theorem addConst_matrix (a : K) (p : Poly K) : (jwRep K).poly (Poly.addConst a p) = (jwRep K).poly p + a • 1 :=
  addConst_sem _ a p

/-- **[A,B]** and **{A,B}**. -/
theorem commutator_matrix (p q : Poly K) :
    ∃ t, Poly.commutator p q = some t ∧
      (jwRep K).poly t = (jwRep K).poly p * (jwRep K).poly q - (jwRep K).poly q * (jwRep K).poly p := by
  obtain ⟨t, ht⟩ := Option.isSome_iff_exists.mp (commutator_isSome p q)
  exact ⟨t, ht, commutator_sem (jwRep K) (jw_sq_c K) (jw_sq_cd K) p q t ht⟩
theorem antiCommutator_matrix (p q : Poly K) :
    ∃ t, Poly.antiCommutator p q = some t ∧
      (jwRep K).poly t = (jwRep K).poly p * (jwRep K).poly q + (jwRep K).poly q * (jwRep K).poly p := by
  obtain ⟨t, ht⟩ := Option.isSome_iff_exists.mp (antiCommutator_isSome p q)
  exact ⟨t, ht, antiCommutator_sem (jwRep K) (jw_sq_c K) (jw_sq_cd K) p q t ht⟩

/-- Products are associative (as matrices). -/
theorem mul_assoc_matrix (p q s pq qs l r : Poly K)
    (h1 : Poly.mul p q = some pq) (h2 : Poly.mul pq s = some l)
    (h3 : Poly.mul q s = some qs) (h4 : Poly.mul p qs = some r) : (jwRep K).poly l = (jwRep K).poly r :=
  mul_assoc_sem (jwRep K) (jw_sq_c K) (jw_sq_cd K) p q s pq qs l r h1 h2 h3 h4

/-- **Equality test** as the code performs it (`Gen.Core.eqLengthTest` records whether the source
compares the lengths of the monomials): it never reads out of bounds, decides syntactic equality, and
on canonical polynomials (`Canonical`: an assumption on both operands, not proved of what the algebra
produces) agrees with equality of the Jordan-Wigner matrices. -/
theorem equality_test (p q : Poly K) :
    (∃ b, Poly.eqCoded Pomerol.Gen.Core.eqLengthTest p q = some b) ∧
    (Poly.eqCoded Pomerol.Gen.Core.eqLengthTest p q = some true ↔ p = q) := by
  have hflag : Pomerol.Gen.Core.eqLengthTest = true := by decide
  rw [hflag]
  exact ⟨⟨_, eqCoded_true_eq p q⟩, eqCoded_true_iff p q⟩

theorem equality_test_matrix [Nontrivial K] (p q : Poly K) (hp : Canonical p) (hq : Canonical q) :
    Poly.eqCoded Pomerol.Gen.Core.eqLengthTest p q = some true ↔ (jwRep K).poly p = (jwRep K).poly q := by
  have hflag : Pomerol.Gen.Core.eqLengthTest = true := by decide
  rw [hflag]
  exact eqCoded_iff_sem p q hp hq

/-- **Commutation test**: a positive answer implies that the matrices commute (soundness, all
polynomials; the converse is not proved). -/
theorem commutes_sound (p q : Poly K)
    (h : Poly.commutes Pomerol.Gen.Core.eqLengthTest p q = some true) :
    (jwRep K).poly p * (jwRep K).poly q = (jwRep K).poly q * (jwRep K).poly p :=
  commutes_sem (jwRep K) (jw_sq_c K) (jw_sq_cd K) p q h

/-- The comparison without the length test (the defect that was repaired) is wrong and can read out
of bounds -- regression lemmas. -/
theorem prefix_comparison_was_wrong :
    Poly.eqCoded (K := Int) false [([⟨false, 0⟩], 1)] [([⟨false, 0⟩, ⟨true, 1⟩], 1)] = some true ∧
    Poly.eqCoded (K := Int) false [([⟨false, 0⟩, ⟨true, 1⟩], 1)] [([⟨false, 0⟩], 1)] = none := by
  decide

/-- **Specialised N and S_z** act on every Fock state exactly like their generic polynomial forms. -/
theorem N_operator [Nontrivial K] (M bra ket : Nat) :
    matrixElement (opNTotal (K := K) M) bra ket = if bra = ket then ((popCount ket M : Nat) : K) else 0 :=
  N_shortcut M bra ket
theorem Sz_operator [Nontrivial K] (half : K) (ups downs : List Nat) (h : ups.length = downs.length)
    (bra ket : Nat) :
    matrixElement (opSz half ups downs) bra ket =
      if bra = ket then half * ((szTwice ups downs ket : Int) : K) else 0 :=
  Sz_shortcut half ups downs h bra ket

/-- Non-vacuity: `c₀ c†₀ c₁ c†₁ = 1 − n₀ − n₁ + n₀n₁` evaluated by the kernel through the model. -/
example : normalizeInsert (K := Int) [⟨true,0⟩,⟨false,0⟩,⟨true,1⟩,⟨false,1⟩] 1 [] =
    some [([], 1), ([⟨false,0⟩,⟨true,0⟩], -1), ([⟨false,1⟩,⟨true,1⟩], -1),
          ([⟨false,0⟩,⟨false,1⟩,⟨true,0⟩,⟨true,1⟩], -1)] := by decide

end Pomerol.Properties.C05
