/-
  Property C04, first half: the polynomial `IndexHamiltonian::prepare` builds from a lattice denotes
  the sum of the stored terms, each read as amplitude × ordered product of `c†`/`c`, in every
  representation of the canonical anticommutation relations with `c_i² = c†_i² = 0`; and the block
  matrices are the matrices of that operator in the Jordan-Wigner representation.  Main statement:
  `hamiltonian_is_sum_of_terms`.  The setting is described at the head of `Properties/C04.lean`, which
  continues with what the presets store.
-/
import PomerolModel.Generated.CoreFlags
import PomerolModel.Model.Index
import PomerolModel.Model.LatticeSpec
import PomerolModel.Spec.NormalizeSem
import PomerolModel.Spec.OpTotal
import PomerolModel.Spec.JW
import PomerolModel.Spec.ListLemmas

set_option linter.unusedSectionVars false

namespace Pomerol.Properties.C04
open Pomerol.Model Pomerol.Model.Lat Pomerol.Model.LatSpec Pomerol.Spec

section Algebra
open scoped Pomerol.Spec.Exact
variable {K A : Type} [CommRing K] [DecidableEq K] [Ring A] [Algebra K A]

/-- the operator one factor `(creation?, index)` stands for -/
def factorDenot (r : CARRep K A) (f : Bool × Nat) : A := if f.1 then r.cd f.2 else r.c f.2

theorem poly_factor (r : CARRep K A) (f : Bool × Nat) :
    r.poly (if f.1 then opCdag f.2 else opC f.2 : Poly K) = factorDenot r f := by
  unfold factorDenot
  split
  · exact poly_opCdag r _
  · exact poly_opC r _

/-- the repaired accumulation `tmp *= t1` (after the first factor), for an arbitrary partial
product `acc` -/
theorem termProduct_acc_sem (r : CARRep K A) (hc : ∀ i, r.c i * r.c i = 0)
    (hcd : ∀ i, r.cd i * r.cd i = 0) :
    ∀ (fs : List (Bool × Nat)) (acc p : Poly K), Idx.termProduct false fs acc false = some p →
      r.poly p = r.poly acc * (fs.map (factorDenot r)).prod
  | [], acc, p, h => by
    simp only [Idx.termProduct, Option.some.injEq] at h
    subst h
    simp
  | f :: rest, acc, p, h => by
    obtain ⟨cre, i⟩ := f
    simp only [Idx.termProduct, Bool.false_eq_true, if_false] at h
    split at h
    · cases h
    · rename_i q hq
      rw [termProduct_acc_sem r hc hcd rest q p h, mul_sem r hc hcd _ _ _ hq,
        poly_factor r (cre, i), List.map_cons, List.prod_cons, mul_assoc]

/-- **The product of a term's operators is translated correctly** (accumulation as the source does
it now: `if (i==0) tmp = t1; else tmp *= t1;`): for a non-empty list of factors the resulting
polynomial denotes the ordered product of the factors' operators; for the empty list it is the
empty polynomial. -/
theorem term_product_sound (r : CARRep K A) (hc : ∀ i, r.c i * r.c i = 0)
    (hcd : ∀ i, r.cd i * r.cd i = 0) (fs : List (Bool × Nat)) (p : Poly K)
    (h : Idx.termProduct false fs [] true = some p) :
    (fs ≠ [] → r.poly p = (fs.map fun f => if f.1 then r.cd f.2 else r.c f.2).prod) ∧
    (fs = [] → p = []) := by
  cases fs with
  | nil =>
    simp only [Idx.termProduct, Option.some.injEq] at h
    exact ⟨fun hne => absurd rfl hne, fun _ => h.symm⟩
  | cons f rest =>
    refine ⟨fun _ => ?_, fun hnil => by cases hnil⟩
    obtain ⟨cre, i⟩ := f
    simp only [Idx.termProduct] at h
    rw [termProduct_acc_sem r hc hcd rest _ p h, poly_factor r (cre, i), List.map_cons,
      List.prod_cons]
    rfl

/-- The product is always defined (normal ordering never runs out of fuel). -/
theorem term_product_total (restart : Bool) (fs : List (Bool × Nat)) (acc : Poly K)
    (first : Bool) : (Idx.termProduct restart fs acc first).isSome :=
  termProduct_isSome restart fs acc first

end Algebra

section Regression
open scoped Pomerol.Spec.Exact

/-- REGRESSION (the defect that was fixed): with the accumulation
`if (tmp.isEmpty()) tmp = t1; else tmp *= t1;` the product restarts whenever the partial product has
become zero, so the vanishing product `c†₀ c†₀ c₁ c₂` was translated into `c₁ c₂`; with the repaired
accumulation it is translated into 0. -/
theorem product_restart_was_wrong :
    (Idx.termProduct (K := Int) true
        [(true, 0), (true, 0), (false, 1), (false, 2)] [] true
      = some [([⟨true, 1⟩, ⟨true, 2⟩], 1)]) ∧
    (Idx.termProduct (K := Int) false
        [(true, 0), (true, 0), (false, 1), (false, 2)] [] true
      = some []) := by
  decide

end Regression

/-- The source currently uses the repaired accumulation. -/
theorem source_does_not_restart : Pomerol.Gen.Core.productRestartsOnEmpty = false := by decide

section Hamiltonian
open scoped Pomerol.Spec.Exact
variable {K A : Type} [CommRing K] [DecidableEq K] [Ring A] [Algebra K A]

/-- the factors of a lattice term: (creation?, single-particle index of (label, orbital, spin)) -/
def termFactors (tbl : List Idx.IndexInfo) (t : Term K) : List (Bool × Nat) :=
  (List.range t.order).map fun i =>
    (t.ops.getD i false,
      Idx.getIndex tbl ⟨t.labels.getD i "", t.orbs.getD i 0, t.spins.getD i 0⟩)

/-- the operator a lattice term stands for: amplitude × ordered product of its factors; a term
without factors contributes nothing -/
def termDenot (r : CARRep K A) (tbl : List Idx.IndexInfo) (t : Term K) : A :=
  match termFactors tbl t with
  | [] => 0
  | f :: fs => t.value • ((f :: fs).map (factorDenot r)).prod

/-- the operator a lattice stands for: the sum over the orders `maxOrder, …, 1` (in this order, as
the loop runs) of the sum over the stored terms of that order (in insertion order) -/
def latticeDenot (r : CARRep K A) (L : Lat.Lattice K) (tbl : List Idx.IndexInfo) : A :=
  (((List.range L.maxOrder).reverse.map (· + 1)).map fun n =>
    ((getTerms L n).map (termDenot r tbl)).sum).sum

/-- one pass of the inner loop body: `*this += Value * tmp` -/
theorem term_step_sem (r : CARRep K A) (hc : ∀ i, r.c i * r.c i = 0)
    (hcd : ∀ i, r.cd i * r.cd i = 0) (tbl : List Idx.IndexInfo) (H : Poly K) (t : Term K)
    (H' : Poly K)
    (h : (match Idx.termProduct false (termFactors tbl t) [] true with
          | none => none
          | some tmp => some (Poly.add H (Poly.smul t.value tmp))) = some H') :
    r.poly H' = r.poly H + termDenot r tbl t := by
  split at h
  · cases h
  · rename_i tmp htmp
    simp only [Option.some.injEq] at h
    subst h
    rw [add_sem, smul_sem]
    congr 1
    obtain ⟨h1, h2⟩ := term_product_sound r hc hcd _ _ htmp
    unfold termDenot
    cases hf : termFactors tbl t with
    | nil => rw [h2 hf]; simp
    | cons f fs =>
      rw [hf] at h1
      rw [h1 (by simp)]
      rfl

/-- **MAIN STATEMENT.**  The polynomial `IndexHamiltonian::prepare` builds from a lattice denotes
the sum, over all stored terms, of amplitude × product of the creation/annihilation operators of
the term's factors -- in every representation of the CAR with `c_i² = c†_i² = 0`, for every lattice,
every index table and every coefficient ring. -/
theorem hamiltonian_is_sum_of_terms (r : CARRep K A) (hc : ∀ i, r.c i * r.c i = 0)
    (hcd : ∀ i, r.cd i * r.cd i = 0) (L : Lat.Lattice K) (tbl : List Idx.IndexInfo) (H : Poly K)
    (h : Idx.indexHamiltonian L tbl = some H) : r.poly H = latticeDenot r L tbl := by
  unfold Idx.indexHamiltonian at h
  rw [source_does_not_restart] at h
  have inner : ∀ (n : Nat) (acc res : Poly K),
      (getTerms L n).foldlM (fun (H : Poly K) (t : Term K) =>
        match Idx.termProduct false (termFactors tbl t) [] true with
        | none => none
        | some tmp => some (Poly.add H (Poly.smul t.value tmp))) acc = some res →
      r.poly res = r.poly acc + ((getTerms L n).map (termDenot r tbl)).sum := by
    intro n acc res hres
    exact foldlM_sem (r.poly) _ (termDenot r tbl)
      (fun acc t res ht => term_step_sem r hc hcd tbl acc t res ht) (getTerms L n) acc res hres
  have outer := foldlM_sem (r.poly) _
    (fun n => ((getTerms L n).map (termDenot r tbl)).sum)
    (fun acc n res hn => inner n acc res hn) ((List.range L.maxOrder).reverse.map (· + 1)) [] H h
  rw [outer, poly_nil, zero_add]
  rfl

/-- The translation never fails: `IndexHamiltonian::prepare` returns a Hamiltonian for every lattice
and every index table. -/
theorem index_hamiltonian_total (L : Lat.Lattice K) (tbl : List Idx.IndexInfo) :
    (Idx.indexHamiltonian L tbl).isSome :=
  indexHamiltonian_isSome L tbl

/-- **The matrix is the matrix of the Hamiltonian.**  The vector `Operator::actRight(ket)` returns
for the Hamiltonian -- whose entries `HamiltonianPart::prepare` writes into the block matrix -- is
`H |ket⟩`, and `getMatrixElement(bra, ket)` is `⟨bra| H |ket⟩`, where `H` is the sum of the lattice
terms acting on Fock space through the Jordan-Wigner matrices. -/
theorem matrix_from_action [Nontrivial K] (L : Lat.Lattice K) (tbl : List Idx.IndexInfo) (H : Poly K)
    (h : Idx.indexHamiltonian L tbl = some H) (bra ket : Nat) :
    listVec (actPoly H ket) = latticeDenot (jwRep K) L tbl (Finsupp.single ket 1) ∧
    matrixElement H bra ket = (latticeDenot (jwRep K) L tbl (Finsupp.single ket 1)) bra := by
  rw [← hamiltonian_is_sum_of_terms (jwRep K) (jw_sq_c K) (jw_sq_cd K) L tbl H h]
  exact ⟨actPoly_sem H ket, matrixElement_sem H bra ket⟩

/-- every entry `(bra, v)` of the vector returned by `actRight(ket)` is the matrix element
`⟨bra| p |ket⟩`, and it is not zero -/
theorem actPoly_entry (p : Poly K) (ket bra : Nat) (v : K) (h : (bra, v) ∈ actPoly p ket) :
    matrixElement p bra ket = v ∧ v ≠ 0 := by
  refine ⟨?_, actPoly_nonzero p ket _ h⟩
  unfold matrixElement
  rw [(find?_key_iff (·.1) ((List.pairwise_map.1 (actPoly_sorted p ket)).imp Nat.ne_of_lt) bra (bra, v)).2
    ⟨h, rfl⟩]

/-- **Every entry `HamiltonianPart::prepare` writes into the matrix of block `b`** -- column = a state
of the block, row = the inner index of the image state `bra` -- is the Fock-space matrix element
`⟨bra| H |state⟩` of the sum of the lattice terms, and only non-zero elements are written. -/
theorem block_matrix_entries [Nontrivial K] (L : Lat.Lattice K) (tbl : List Idx.IndexInfo)
    (H : Poly K) (h : Idx.indexHamiltonian L tbl = some H) (blkOf : List Nat)
    (blocks : List (List Nat)) (b : Nat) (w : Option Nat × Nat × K)
    (hw : w ∈ Symm.blockMatrixWrites H blkOf blocks b) :
    ∃ bra, w.1 = Symm.innerState blkOf blocks bra ∧ w.2.1 < (blocks.getD b []).length ∧
      w.2.2 = (latticeDenot (jwRep K) L tbl
        (Finsupp.single ((blocks.getD b []).getD w.2.1 0) 1)) bra ∧ w.2.2 ≠ 0 := by
  unfold Symm.blockMatrixWrites at hw
  simp only [List.mem_flatMap, List.mem_range, List.mem_map] at hw
  obtain ⟨col, hcol, ⟨bra, v⟩, hmem, rfl⟩ := hw
  have hv := actPoly_entry H _ bra v hmem
  refine ⟨bra, rfl, hcol, ?_, hv.2⟩
  rw [← (matrix_from_action L tbl H h bra _).2, hv.1]

end Hamiltonian

end Pomerol.Properties.C04
