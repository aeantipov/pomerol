/-
  Property C08: the observables do not depend on how the Fock space was partitioned into blocks.

  The library evaluates every observable from the eigen-data of the Hamiltonian (eigenvalues, Gibbs
  weights, operator matrices in the eigenbasis).  A different set of symmetry operations gives a
  different partition, hence different blocks, a different numbering of the eigenstates and
  different eigenvectors inside degenerate levels -- but the same Fock-space Hamiltonian and the same
  Fock-space operators.  The theorems below say that what the library evaluates equals an expression
  in which the partition does not occur (the definition of the observable: a trace over the Fock
  space / its Fourier transform / the characteristic polynomial of the Fock Hamiltonian); two
  evaluations belonging to two sound partitions therefore agree, both being equal to that
  expression.

  Setting: `d : EigenData ι` (β > 0, eigenvalues `d.E`; Gibbs weights `d.w`, `d.ρ`, `d.H` diagonal);
  `V` is the matrix of the eigenvectors expanded in Fock states, so `V * A * V⁻¹` is the Fock-space
  matrix of the operator whose eigenbasis matrix is `A`; `rhoF d V`, `hamF d V` are the Fock-space
  density matrix and Hamiltonian.  The formulas in `Gen.GF`, `Gen.Susc` are extracted from the
  source.  `BlockEigen Hb U E` is the post-condition of the per-block eigen-solver (C03).

  The strong form removes the detour: for two eigen-decompositions
  `(d₁, V₁)`, `(d₂, V₂)` of the same Fock-space Hamiltonian at the same temperature and operator
  matrices representing the same Fock-space operators, the sums the library evaluates for the
  Green's function, the susceptibility and the thermal averages are equal
  (`observables_same_for_two_decompositions`, `averages_same_for_two_decompositions`); the key step
  is `rhoF_eq_gibbs`: the Fock-space density matrix is `e^{−βH_F}/Tr e^{−βH_F}`.

  Of the two-particle parts `TwoParticleGF::prepare` selects ("world stripes"), which exist depends on
  the partition, what they add up to does not (`stripe_selection_partition_independent`, from
  `Spec/Chi4PrepareSpec.lean`).
-/
import PomerolModel.Spec.Bridge
import PomerolModel.Spec.Blocks
import PomerolModel.Spec.Gibbs
import PomerolModel.Spec.Chi4PrepareSpec

set_option linter.unusedSectionVars false

namespace Pomerol.Properties.C08
open Matrix Complex Polynomial Pomerol Pomerol.Spec

variable {ι : Type} [Fintype ι] [DecidableEq ι]

theorem isUnit_of_unitary (V : Matrix ι ι ℂ) (hV : Vᴴ * V = 1) : IsUnit V ∧ V⁻¹ = Vᴴ :=
  ⟨.of_mul_eq_one_right _ hV, Matrix.inv_eq_left_inv hV⟩

/-- Heisenberg evolution of a Fock-space operator with the Fock-space Hamiltonian `V H V⁻¹` -/
noncomputable def evolF (d : EigenData ι) (V : Matrix ι ι ℂ) (A : Matrix ι ι ℂ) (τ : ℝ) :
    Matrix ι ι ℂ :=
  NormedSpace.exp ((τ : ℂ) • (V * d.H * V⁻¹)) * (V * A * V⁻¹)
    * NormedSpace.exp ((-(τ : ℂ)) • (V * d.H * V⁻¹))

theorem evolF_eq (d : EigenData ι) (V : Matrix ι ι ℂ) (hV : IsUnit V) (A : Matrix ι ι ℂ) (τ : ℝ) :
    evolF d V A τ = V * d.evol A τ * V⁻¹ := by
  unfold evolF EigenData.evol
  rw [exp_smul_conj d V hV, exp_smul_conj d V hV, conj_mul_conj V hV, conj_mul_conj V hV]

/-- the four-operator correlator written entirely with Fock-space matrices equals the eigenbasis
expression, for every invertible change of basis -/
theorem corr4_conj (d : EigenData ι) (V : Matrix ι ι ℂ) (hV : IsUnit V) (A B Cc X : Matrix ι ι ℂ)
    (s1 s2 s3 : ℝ) :
    ((V * d.ρ * V⁻¹) * evolF d V A s1 * evolF d V B s2 * evolF d V Cc s3 * (V * X * V⁻¹)).trace
      = d.corr4 A B Cc X s1 s2 s3 := by
  unfold EigenData.corr4
  rw [evolF_eq d V hV, evolF_eq d V hV, evolF_eq d V hV, conj_mul_conj V hV, conj_mul_conj V hV,
    conj_mul_conj V hV, conj_mul_conj V hV, Matrix.trace_conj hV]

/-- single-particle Green's function.  (1) The correlator `Tr(ρ e^{τH} c e^{−τH} c†)` written with
the Fock-space matrices obtained from the eigen-data through any two invertible changes of basis
`V`, `W` (two partitions) has the same value, for every τ -- both equal `d.corr C CX τ`.
(2) The sum of the extracted term formulas over all pairs of eigenstates, at the library's Matsubara
frequency, equals the definition `−∫₀^β ⟨T c(τ)c†⟩ e^{iω_nτ} dτ`, which is built from that
correlator only; hence any two evaluations agree.  (`V`, `W` do not enter the sum of (2), here and in the
next two theorems; the statements about two different eigen-decompositions are
`observables_same_for_two_decompositions` and `averages_same_for_two_decompositions`.) -/
theorem green_function_partition_independent (d : EigenData ι) (C CX : Matrix ι ι ℂ)
    (V W : Matrix ι ι ℂ) (hV : IsUnit V) (hW : IsUnit W) :
    (∀ τ : ℝ,
      ((V * d.ρ * V⁻¹) * NormedSpace.exp ((τ : ℂ) • (V * d.H * V⁻¹)) * (V * C * V⁻¹)
          * NormedSpace.exp ((-(τ : ℂ)) • (V * d.H * V⁻¹)) * (V * CX * V⁻¹)).trace
      = ((W * d.ρ * W⁻¹) * NormedSpace.exp ((τ : ℂ) • (W * d.H * W⁻¹)) * (W * C * W⁻¹)
          * NormedSpace.exp ((-(τ : ℂ)) • (W * d.H * W⁻¹)) * (W * CX * W⁻¹)).trace) ∧
    (∀ n : ℤ,
      (∑ a, ∑ b, Gen.GF.termFreq (Gen.GF.residue (C a b) (CX b a) (d.w a) (d.w b))
          (Gen.GF.pole (d.E b) (d.E a))
          ((Complex.I * (Real.pi : ℂ) / (d.β : ℂ)) * ((Gen.GF.matsubaraOdd n : ℤ) : ℂ)))
        = d.Gdef C CX n) :=
  ⟨fun τ => (corr_conj d V hV C CX τ).trans (corr_conj d W hW C CX τ).symm,
    fun n => Bridge.gf_equals_definition d C CX n⟩

/-- dynamical susceptibility.  Same statement: the correlator `⟨A(τ)B⟩` in Fock-space form is the
same for any two changes of basis, and the sum of the extracted terms (non-degenerate pairs) and
zero-pole weights (degenerate pairs) equals the definition `∫₀^β ⟨A(τ)B⟩ e^{iΩ_kτ} dτ` for every
bosonic Matsubara number. -/
theorem susceptibility_partition_independent (d : EigenData ι) (A B : Matrix ι ι ℂ)
    (V W : Matrix ι ι ℂ) (hV : IsUnit V) (hW : IsUnit W) :
    (∀ τ : ℝ,
      ((V * d.ρ * V⁻¹) * NormedSpace.exp ((τ : ℂ) • (V * d.H * V⁻¹)) * (V * A * V⁻¹)
          * NormedSpace.exp ((-(τ : ℂ)) • (V * d.H * V⁻¹)) * (V * B * V⁻¹)).trace
      = ((W * d.ρ * W⁻¹) * NormedSpace.exp ((τ : ℂ) • (W * d.H * W⁻¹)) * (W * A * W⁻¹)
          * NormedSpace.exp ((-(τ : ℂ)) • (W * d.H * W⁻¹)) * (W * B * W⁻¹)).trace) ∧
    (∀ k : ℤ,
      (∑ n, ∑ m, if d.E m = d.E n then
          (if k = 0 then Gen.Susc.zeroPoleIncrement (A n m) (B m n) (d.w n) * (d.β : ℂ) else 0)
        else Gen.Susc.termFreq (Gen.Susc.residue (A n m) (B m n) (d.w n) (d.w m))
          (Gen.Susc.pole (d.E m) (d.E n)) (Complex.I * (d.Ω k : ℂ)))
      = d.suscDef A B k) :=
  ⟨fun τ => (corr_conj d V hV A B τ).trans (corr_conj d W hW A B τ).symm,
    fun k => Bridge.susc_sum d A B k⟩

/-- two-particle Green's function.  The four-operator correlator `Tr(ρ A(s₁)B(s₂)C(s₃)X)` in
Fock-space form is the same for any two changes of basis, and the signed sum over the six
permutations of the accumulated multi-terms (what the library evaluates) equals the definition --
the signed sum over the six time orderings of the triple integrals of that correlator -- at every
fermionic frequency triple, in particular at every Matsubara triple. -/
theorem two_particle_partition_independent (d : EigenData ι) (O : Fin 3 → Matrix ι ι ℂ)
    (X : Matrix ι ι ℂ) (V W : Matrix ι ι ℂ) (hV : IsUnit V) (hW : IsUnit W) :
    (∀ (A B Cc : Matrix ι ι ℂ) (s1 s2 s3 : ℝ),
      ((V * d.ρ * V⁻¹) * evolF d V A s1 * evolF d V B s2 * evolF d V Cc s3 * (V * X * V⁻¹)).trace
      = ((W * d.ρ * W⁻¹) * evolF d W A s1 * evolF d W B s2 * evolF d W Cc s3
          * (W * X * W⁻¹)).trace) ∧
    (∀ z : Fin 3 → ℂ, (∀ k, Complex.exp ((d.β:ℂ) * z k) = -1) →
      d.chiLehmann O X z = d.chiDef O X z) ∧
    (∀ k1 k2 k3 : ℤ,
      d.chiLehmann O X ![I * (d.ω k1 : ℂ), I * (d.ω k2 : ℂ), -(I * (d.ω k3 : ℂ))] =
      d.chiDef O X ![I * (d.ω k1 : ℂ), I * (d.ω k2 : ℂ), -(I * (d.ω k3 : ℂ))]) :=
  ⟨fun A B Cc s1 s2 s3 =>
      (corr4_conj d V hV A B Cc X s1 s2 s3).trans (corr4_conj d W hW A B Cc X s1 s2 s3).symm,
    fun z hz => (chi_lehmann d O X z hz).symm,
    fun k1 k2 k3 => (chi_lehmann_matsubara d O X k1 k2 k3).symm⟩

/-- thermal averages.  For every eigenvector matrix `V`: the library's formulas for the average of
an operator with Fock matrix `AF`, of a Fock-diagonal observable `x` (occupancies, double
occupancies, N), and of the energy equal `Tr(ρ_F · …)`; they depend on the partition only through
the Fock-space density matrix `ρ_F = rhoF d V` (and `hamF d V`).  Consequently two evaluations with
the same Fock-space density matrix give the same averages. -/
theorem averages_partition_independent (d : EigenData ι) (V : Matrix ι ι ℂ) :
    (∀ AF : Matrix ι ι ℂ, (∑ s, (Vᴴ * AF * V) s s * (d.w s : ℂ)) = (rhoF d V * AF).trace) ∧
    (∀ x : ι → ℝ, ((∑ s, ∑ f, d.w s * x f * Complex.normSq (V f s) : ℝ) : ℂ)
      = (rhoF d V * diagonal (fun f => (x f : ℂ))).trace) ∧
    (Vᴴ * V = 1 → ((∑ s, d.w s * d.E s : ℝ) : ℂ) = (rhoF d V * hamF d V).trace) ∧
    (∀ (d' : EigenData ι) (W : Matrix ι ι ℂ), rhoF d V = rhoF d' W →
      (∀ AF : Matrix ι ι ℂ,
        (∑ s, (Vᴴ * AF * V) s s * (d.w s : ℂ)) = ∑ s, (Wᴴ * AF * W) s s * (d'.w s : ℂ)) ∧
      (∀ x : ι → ℝ, (∑ s, ∑ f, d.w s * x f * Complex.normSq (V f s))
        = ∑ s, ∑ f, d'.w s * x f * Complex.normSq (W f s))) := by
  refine ⟨fun AF => avg_operator d V AF, fun x => avg_diagonal d V x, fun hV => avg_energy d V hV,
    fun d' W h => ⟨fun AF => ?_, fun x => ?_⟩⟩
  · rw [avg_operator d V AF, avg_operator d' W AF, h]
  · have h1 := avg_diagonal d V x
    have h2 := avg_diagonal d' W x
    rw [h, ← h2] at h1
    exact Complex.ofReal_injective h1

/-- The Fock-space density matrix is the Gibbs operator of the Fock-space Hamiltonian,
`ρ_F = e^{−β H_F} / Tr e^{−β H_F}` (genuine matrix exponential), for every unitary eigenvector
matrix: it is a function of `β` and `H_F` only. -/
theorem rhoF_eq_gibbs (d : EigenData ι) (V : Matrix ι ι ℂ) (hV : Vᴴ * V = 1) :
    rhoF d V = ((NormedSpace.exp ((-(d.β:ℂ)) • hamF d V)).trace)⁻¹ •
      NormedSpace.exp ((-(d.β:ℂ)) • hamF d V) := by
  obtain ⟨hU, hinv⟩ := isUnit_of_unitary V hV
  unfold rhoF hamF
  rw [← hinv, exp_smul_conj d V hU, exp_smul_H]
  have ht : (V * (diagonal fun n => Complex.exp (-(d.β:ℂ) * (d.E n : ℂ))) * V⁻¹).trace
      = ((d.Z : ℝ) : ℂ) := by
    rw [Matrix.trace_conj hU, trace_diagonal]
    unfold EigenData.Z
    push_cast
    rfl
  rw [ht, ← Matrix.smul_mul, ← Matrix.mul_smul]
  congr 2
  unfold EigenData.ρ EigenData.w
  rw [← diagonal_smul]
  congr 1
  funext n
  simp only [Pi.smul_apply, smul_eq_mul]
  push_cast
  rw [div_eq_inv_mul]

/-- Two eigen-decompositions (two partitions: different numbering of the eigenstates, different
eigenvectors within degenerate levels) of the same Fock-space Hamiltonian at the same temperature
give the same Fock-space density matrix. -/
theorem density_matrix_from_fock_hamiltonian (d₁ d₂ : EigenData ι) (hβ : d₁.β = d₂.β)
    (V₁ V₂ : Matrix ι ι ℂ) (h₁ : V₁ᴴ * V₁ = 1) (h₂ : V₂ᴴ * V₂ = 1)
    (hH : hamF d₁ V₁ = hamF d₂ V₂) : rhoF d₁ V₁ = rhoF d₂ V₂ := by
  rw [rhoF_eq_gibbs d₁ V₁ h₁, rhoF_eq_gibbs d₂ V₂ h₂, hH, hβ]

/-- ... and the same correlator `⟨A(τ)B⟩` for operators that have the same Fock-space matrices. -/
theorem correlator_same_for_two_decompositions (d₁ d₂ : EigenData ι) (hβ : d₁.β = d₂.β)
    (V₁ V₂ : Matrix ι ι ℂ) (h₁ : V₁ᴴ * V₁ = 1) (h₂ : V₂ᴴ * V₂ = 1)
    (hH : hamF d₁ V₁ = hamF d₂ V₂) (A₁ B₁ A₂ B₂ : Matrix ι ι ℂ)
    (hA : V₁ * A₁ * V₁ᴴ = V₂ * A₂ * V₂ᴴ) (hB : V₁ * B₁ * V₁ᴴ = V₂ * B₂ * V₂ᴴ) (τ : ℝ) :
    d₁.corr A₁ B₁ τ = d₂.corr A₂ B₂ τ := by
  obtain ⟨u₁, i₁⟩ := isUnit_of_unitary V₁ h₁
  obtain ⟨u₂, i₂⟩ := isUnit_of_unitary V₂ h₂
  have hρ := density_matrix_from_fock_hamiltonian d₁ d₂ hβ V₁ V₂ h₁ h₂ hH
  unfold rhoF at hρ
  unfold hamF at hH
  rw [← corr_conj d₁ V₁ u₁ A₁ B₁ τ, ← corr_conj d₂ V₂ u₂ A₂ B₂ τ, i₁, i₂, hρ, hH, hA, hB]

/-- strong form.  Two eigen-decompositions `(d₁, V₁)`, `(d₂, V₂)` of the same Fock-space Hamiltonian
(`hamF d₁ V₁ = hamF d₂ V₂`, unitary `V₁`, `V₂`, same β), with operator matrices `A₁,B₁` / `A₂,B₂` that
represent the same Fock-space operators: the sums of the extracted Green's-function terms agree at
every fermionic Matsubara frequency, and the sums of the extracted susceptibility terms agree at
every bosonic one. -/
theorem observables_same_for_two_decompositions (d₁ d₂ : EigenData ι) (hβ : d₁.β = d₂.β)
    (V₁ V₂ : Matrix ι ι ℂ) (h₁ : V₁ᴴ * V₁ = 1) (h₂ : V₂ᴴ * V₂ = 1)
    (hH : hamF d₁ V₁ = hamF d₂ V₂) (A₁ B₁ A₂ B₂ : Matrix ι ι ℂ)
    (hA : V₁ * A₁ * V₁ᴴ = V₂ * A₂ * V₂ᴴ) (hB : V₁ * B₁ * V₁ᴴ = V₂ * B₂ * V₂ᴴ) :
    (∀ n : ℤ,
      (∑ a, ∑ b, Gen.GF.termFreq (Gen.GF.residue (A₁ a b) (B₁ b a) (d₁.w a) (d₁.w b))
          (Gen.GF.pole (d₁.E b) (d₁.E a))
          ((Complex.I * (Real.pi : ℂ) / (d₁.β : ℂ)) * ((Gen.GF.matsubaraOdd n : ℤ) : ℂ)))
      = ∑ a, ∑ b, Gen.GF.termFreq (Gen.GF.residue (A₂ a b) (B₂ b a) (d₂.w a) (d₂.w b))
          (Gen.GF.pole (d₂.E b) (d₂.E a))
          ((Complex.I * (Real.pi : ℂ) / (d₂.β : ℂ)) * ((Gen.GF.matsubaraOdd n : ℤ) : ℂ))) ∧
    (∀ k : ℤ,
      (∑ n, ∑ m, if d₁.E m = d₁.E n then
          (if k = 0 then Gen.Susc.zeroPoleIncrement (A₁ n m) (B₁ m n) (d₁.w n) * (d₁.β : ℂ) else 0)
        else Gen.Susc.termFreq (Gen.Susc.residue (A₁ n m) (B₁ m n) (d₁.w n) (d₁.w m))
          (Gen.Susc.pole (d₁.E m) (d₁.E n)) (Complex.I * (d₁.Ω k : ℂ)))
      = ∑ n, ∑ m, if d₂.E m = d₂.E n then
          (if k = 0 then Gen.Susc.zeroPoleIncrement (A₂ n m) (B₂ m n) (d₂.w n) * (d₂.β : ℂ) else 0)
        else Gen.Susc.termFreq (Gen.Susc.residue (A₂ n m) (B₂ m n) (d₂.w n) (d₂.w m))
          (Gen.Susc.pole (d₂.E m) (d₂.E n)) (Complex.I * (d₂.Ω k : ℂ))) := by
  have hc : ∀ τ, d₁.corr A₁ B₁ τ = d₂.corr A₂ B₂ τ :=
    correlator_same_for_two_decompositions d₁ d₂ hβ V₁ V₂ h₁ h₂ hH A₁ B₁ A₂ B₂ hA hB
  have hω : ∀ k, d₁.ω k = d₂.ω k := by intro k; unfold EigenData.ω; rw [hβ]
  have hΩ : ∀ k, d₁.Ω k = d₂.Ω k := by intro k; unfold EigenData.Ω; rw [hβ]
  refine ⟨fun n => ?_, fun k => ?_⟩
  · rw [Bridge.gf_equals_definition, Bridge.gf_equals_definition]
    unfold EigenData.Gdef
    simp only [hc, hω, hβ]
  · rw [Bridge.susc_sum, Bridge.susc_sum]
    unfold EigenData.suscDef
    simp only [hc, hΩ, hβ]

/-- ... and the same thermal averages: of every operator with Fock matrix `AF`, of every
Fock-diagonal observable `x`, and of the energy. -/
theorem averages_same_for_two_decompositions (d₁ d₂ : EigenData ι) (hβ : d₁.β = d₂.β)
    (V₁ V₂ : Matrix ι ι ℂ) (h₁ : V₁ᴴ * V₁ = 1) (h₂ : V₂ᴴ * V₂ = 1)
    (hH : hamF d₁ V₁ = hamF d₂ V₂) :
    (∀ AF : Matrix ι ι ℂ,
      (∑ s, (V₁ᴴ * AF * V₁) s s * (d₁.w s : ℂ)) = ∑ s, (V₂ᴴ * AF * V₂) s s * (d₂.w s : ℂ)) ∧
    (∀ x : ι → ℝ, (∑ s, ∑ f, d₁.w s * x f * Complex.normSq (V₁ f s))
      = ∑ s, ∑ f, d₂.w s * x f * Complex.normSq (V₂ f s)) ∧
    (∑ s, d₁.w s * d₁.E s) = ∑ s, d₂.w s * d₂.E s := by
  have hρ := density_matrix_from_fock_hamiltonian d₁ d₂ hβ V₁ V₂ h₁ h₂ hH
  obtain ⟨-, -, -, h4⟩ := averages_partition_independent d₁ V₁
  obtain ⟨ha, hx⟩ := h4 d₂ V₂ hρ
  refine ⟨ha, hx, ?_⟩
  have e1 := avg_energy d₁ V₁ h₁
  have e2 := avg_energy d₂ V₂ h₂
  rw [hρ, hH, ← e2] at e1
  exact_mod_cast e1

/-- spectrum.  Two block decompositions of the same Fock Hamiltonian `H` -- block index types `B`,
`B'`, block sizes `m`, `m'`, addressings `e`, `e'` of the Fock states, blocks `Hb`, `Hb'`, and the
eigenvalues `E`, `E'` returned by the per-block solver -- give the same eigenvalues with the same
multiplicities: both products `∏ (X − E_k)` are the characteristic polynomial of `H`, and the two
multisets of eigenvalues coincide. -/
theorem spectrum_partition_independent {σ : Type} [Fintype σ] [DecidableEq σ]
    {B : Type} [Fintype B] [DecidableEq B] {m : B → Type} [∀ b, Fintype (m b)]
    [∀ b, DecidableEq (m b)]
    {B' : Type} [Fintype B'] [DecidableEq B'] {m' : B' → Type} [∀ b, Fintype (m' b)]
    [∀ b, DecidableEq (m' b)]
    (e : σ ≃ Σ b, m b) (e' : σ ≃ Σ b, m' b) (H : Matrix σ σ ℂ)
    {Hb : ∀ b, Matrix (m b) (m b) ℂ} {U : ∀ b, Matrix (m b) (m b) ℂ} {E : ∀ b, m b → ℝ}
    {Hb' : ∀ b, Matrix (m' b) (m' b) ℂ} {U' : ∀ b, Matrix (m' b) (m' b) ℂ} {E' : ∀ b, m' b → ℝ}
    (h : BlockEigen (m := m) Hb U E) (h' : BlockEigen (m := m') Hb' U' E')
    (hH : H = Matrix.reindex e.symm e.symm (blockDiagonal' Hb))
    (hH' : H = Matrix.reindex e'.symm e'.symm (blockDiagonal' Hb')) :
    (∏ k : Σ b, m b, (X - C (E k.1 k.2 : ℂ))) = H.charpoly ∧
    (∏ k : Σ b, m' b, (X - C (E' k.1 k.2 : ℂ))) = H.charpoly ∧
    (Finset.univ : Finset (Σ b, m b)).val.map (fun k => E k.1 k.2)
      = (Finset.univ : Finset (Σ b, m' b)).val.map (fun k => E' k.1 k.2) := by
  have h1 := fock_charpoly e H h hH
  have h2 := fock_charpoly e' H h' hH'
  refine ⟨h1.symm, h2.symm, ?_⟩
  have r1 : H.charpoly.roots
      = (Finset.univ : Finset (Σ b, m b)).val.map (fun k => (E k.1 k.2 : ℂ)) := by
    rw [hH, charpoly_reindex]; exact block_spectrum_roots h
  have r2 : H.charpoly.roots
      = (Finset.univ : Finset (Σ b, m' b)).val.map (fun k => (E' k.1 k.2 : ℂ)) := by
    rw [hH', charpoly_reindex]; exact block_spectrum_roots h'
  have hc := r1.symm.trans r2
  apply Multiset.map_injective Complex.ofReal_injective
  rw [Multiset.map_map, Multiset.map_map]
  exact hc

section stripes
open Pomerol.Model.Chi4Prepare Pomerol.Spec.Chi4PrepareSpec Pomerol.Spec.Chi4Refine
open Pomerol.Model.Chi4Part (SpMat)

/-- world-stripe selection.  The parts `TwoParticleGF::prepare` creates depend on the partition: the
blocks, their numbering, the block bimaps of the four operators and hence the list of selected stripes
are all different for a different set of symmetry operations.  What the parts add up to is not:
for any block structure -- any numbering `e` of the eigenstates by (block, index in block), any bimaps
`bm`, `cx4` that are graphs of partial injective maps and list every non-zero block of the renumbered
operator matrices, any faithful compressed copies of the blocks -- the signed sum over the selected
stripes of what their parts accumulate is `d.chiLehmann O X z`, and the stripes of ordering `p` add up
to `d.orderedLehmann …`: sums over all eigenstates in which no block occurs.  Consequently two partitions
`e₁`, `e₂` of the same eigen-data give the same value (both sides below are equal to `d.chiLehmann O X z`),
and at fermionic frequencies this value is the definition `d.chiDef O X z`
(`two_particle_partition_independent`). -/
theorem stripe_selection_partition_independent (d : EigenData ι)
    (O : Fin 3 → Matrix ι ι ℂ) (X : Matrix ι ι ℂ) (z : Fin 3 → ℂ)
    {nB₁ : ℕ} {sz₁ : Fin nB₁ → ℕ} (e₁ : ι ≃ GFRefine.Basis sz₁)
    (R₁ C₁ : Fin 3 → Fin nB₁ → Fin nB₁ → SpMat ℂ) (CX₁ : Fin nB₁ → Fin nB₁ → SpMat ℂ)
    (hR₁ : ∀ k b b', RowMajorOf (R₁ k b b') (blockOf (Matrix.reindex e₁ e₁ (O k)) b b'))
    (hC₁ : ∀ k b b', ColMajorOf (C₁ k b b') (blockOf (Matrix.reindex e₁ e₁ (O k)) b b'))
    (hX₁ : ∀ b b', ColMajorOf (CX₁ b b') (blockOf (Matrix.reindex e₁ e₁ X) b b'))
    (bm₁ : Fin 3 → BlockMap) (cx4₁ : BlockMap) (hbm₁ : ∀ k, IsBimap (bm₁ k))
    (h4₁ : RightUnique cx4₁)
    (hO₁ : ∀ k, GFRefine.CoversBlocks (bm₁ k) (Matrix.reindex e₁ e₁ (O k)))
    (hX4₁ : GFRefine.CoversBlocks cx4₁ (Matrix.reindex e₁ e₁ X))
    {nB₂ : ℕ} {sz₂ : Fin nB₂ → ℕ} (e₂ : ι ≃ GFRefine.Basis sz₂)
    (R₂ C₂ : Fin 3 → Fin nB₂ → Fin nB₂ → SpMat ℂ) (CX₂ : Fin nB₂ → Fin nB₂ → SpMat ℂ)
    (hR₂ : ∀ k b b', RowMajorOf (R₂ k b b') (blockOf (Matrix.reindex e₂ e₂ (O k)) b b'))
    (hC₂ : ∀ k b b', ColMajorOf (C₂ k b b') (blockOf (Matrix.reindex e₂ e₂ (O k)) b b'))
    (hX₂ : ∀ b b', ColMajorOf (CX₂ b b') (blockOf (Matrix.reindex e₂ e₂ X) b b'))
    (bm₂ : Fin 3 → BlockMap) (cx4₂ : BlockMap) (hbm₂ : ∀ k, IsBimap (bm₂ k))
    (h4₂ : RightUnique cx4₂)
    (hO₂ : ∀ k, GFRefine.CoversBlocks (bm₂ k) (Matrix.reindex e₂ e₂ (O k)))
    (hX4₂ : GFRefine.CoversBlocks cx4₂ (Matrix.reindex e₂ e₂ X)) :
    ((prepare (fun _ => true) (bm₁ 0) (bm₁ 1) (bm₁ 2) cx4₁).map fun s =>
        ((permEntry s.1).2 : ℂ) * stripeValue (reindexData d e₁) z R₁ C₁ CX₁ s).sum
      = d.chiLehmann O X z ∧
    ((prepare (fun _ => true) (bm₁ 0) (bm₁ 1) (bm₁ 2) cx4₁).map fun s =>
        ((permEntry s.1).2 : ℂ) * stripeValue (reindexData d e₁) z R₁ C₁ CX₁ s).sum
      = ((prepare (fun _ => true) (bm₂ 0) (bm₂ 1) (bm₂ 2) cx4₂).map fun s =>
        ((permEntry s.1).2 : ℂ) * stripeValue (reindexData d e₂) z R₂ C₂ CX₂ s).sum ∧
    ∀ p : Fin 6,
      ((stripesOf p.1 (prepare (fun _ => true) (bm₁ 0) (bm₁ 1) (bm₁ 2) cx4₁)).map
          (stripeValue (reindexData d e₁) z R₁ C₁ CX₁)).sum
        = d.orderedLehmann (O (permFn p 0)) (O (permFn p 1)) (O (permFn p 2)) X
            (z (permFn p 0)) (z (permFn p 1)) (z (permFn p 2)) := by
  obtain ⟨a1, b1⟩ := selected_stripes_sum_partition_free d O X z e₁ R₁ C₁ CX₁ bm₁ cx4₁
    ⟨hR₁, hC₁, hX₁, hbm₁, h4₁, hO₁, hX4₁⟩
  obtain ⟨-, b2⟩ := selected_stripes_sum_partition_free d O X z e₂ R₂ C₂ CX₂ bm₂ cx4₂
    ⟨hR₂, hC₂, hX₂, hbm₂, h4₂, hO₂, hX4₂⟩
  exact ⟨b1, b1.trans b2.symm, a1⟩

/-- non-vacuity: the hypotheses hold for every system whose eigenbasis is treated as one block of `n`
states (arbitrary operator matrices, every block stored entry by entry, all four bimaps `{0 ↦ 0}`), with
the eigenstates numbered in two ways that differ by an arbitrary permutation `σ`; the two evaluations
agree. -/
example {n : ℕ} (d : EigenData (GFRefine.Basis (fun _ : Fin 1 => n)))
    (O : Fin 3 → Matrix (GFRefine.Basis (fun _ : Fin 1 => n)) (GFRefine.Basis (fun _ : Fin 1 => n)) ℂ)
    (X : Matrix (GFRefine.Basis (fun _ : Fin 1 => n)) (GFRefine.Basis (fun _ : Fin 1 => n)) ℂ)
    (z : Fin 3 → ℂ)
    (σ : GFRefine.Basis (fun _ : Fin 1 => n) ≃ GFRefine.Basis (fun _ : Fin 1 => n)) :
    ((prepare (fun _ => true) [(0, 0)] [(0, 0)] [(0, 0)] [(0, 0)]).map fun s =>
        ((permEntry s.1).2 : ℂ) * stripeValue (reindexData d (Equiv.refl _)) z
          (fun k b b' => storeRows (fun _ => true)
            (blockOf (Matrix.reindex (Equiv.refl _) (Equiv.refl _) (O k)) b b'))
          (fun k b b' => storeRows (fun _ => true)
            (blockOf (Matrix.reindex (Equiv.refl _) (Equiv.refl _) (O k)) b b')ᵀ)
          (fun b b' => storeRows (fun _ => true)
            (blockOf (Matrix.reindex (Equiv.refl _) (Equiv.refl _) X) b b')ᵀ) s).sum
      = ((prepare (fun _ => true) [(0, 0)] [(0, 0)] [(0, 0)] [(0, 0)]).map fun s =>
        ((permEntry s.1).2 : ℂ) * stripeValue (reindexData d σ) z
          (fun k b b' => storeRows (fun _ => true) (blockOf (Matrix.reindex σ σ (O k)) b b'))
          (fun k b b' => storeRows (fun _ => true) (blockOf (Matrix.reindex σ σ (O k)) b b')ᵀ)
          (fun b b' => storeRows (fun _ => true) (blockOf (Matrix.reindex σ σ X) b b')ᵀ) s).sum := by
  have hcov : ∀ M : Matrix (GFRefine.Basis (fun _ : Fin 1 => n))
      (GFRefine.Basis (fun _ : Fin 1 => n)) ℂ, GFRefine.CoversBlocks [(0, 0)] M := by
    intro M L R _
    have hL : L.1 = 0 := Fin.val_eq_zero L
    have hR : R.1 = 0 := Fin.val_eq_zero R
    rw [hL, hR]
    exact List.mem_singleton.mpr rfl
  exact (stripe_selection_partition_independent d O X z (Equiv.refl _) _ _ _
    (fun k b b' => storeRows_rowMajorOf _ (fun _ h => by simp at h) _)
    (fun k b b' => storeRows_colMajorOf _ (fun _ h => by simp at h) _)
    (fun b b' => storeRows_colMajorOf _ (fun _ h => by simp at h) _)
    (fun _ => [(0, 0)]) [(0, 0)] (fun _ => by decide) (by decide) (fun _ => hcov _) (hcov _)
    σ _ _ _
    (fun k b b' => storeRows_rowMajorOf _ (fun _ h => by simp at h) _)
    (fun k b b' => storeRows_colMajorOf _ (fun _ h => by simp at h) _)
    (fun b b' => storeRows_colMajorOf _ (fun _ h => by simp at h) _)
    (fun _ => [(0, 0)]) [(0, 0)] (fun _ => by decide) (by decide) (fun _ => hcov _) (hcov _)).2.1

end stripes

end Pomerol.Properties.C08
