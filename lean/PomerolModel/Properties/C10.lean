/-
  Property C10: the matrices of the creation / annihilation operators stored by the library (the
  "field operator" objects, computed block by block in the eigenbasis of the Hamiltonian) ARE the
  Fock-space matrices of these operators, rotated into the eigenbasis.

  The library computes, for every pair of blocks connected by the operator, the product
  `U_to† · O · U_from`, with `O` given as a map "Fock state ↦ (target Fock state, sign)" and evaluated
  as a product of a left factor (rows of `U_to†` picked by the target states) and a right factor (rows
  of `U_from` multiplied by the sign).  The theorems below say: this product is the rotation
  `U_to† · O · U_from` of the signed partial-permutation matrix of the map, a rotation preserves the
  canonical anticommutation relations, commutes with taking the adjoint (so computing the
  annihilator as the adjoint of the stored creator is right), and can be undone.

  Lemmas: `Spec/Rotation.lean` (matrices), `Spec/FieldPartSpec.lean` (the loops, one pair of blocks).
-/
import PomerolModel.Spec.Rotation
import PomerolModel.Spec.FieldPartSpec
import Mathlib.LinearAlgebra.Matrix.Notation
import Mathlib.Tactic.NormNum.Basic

namespace Pomerol.Properties.C10
open Matrix Pomerol.Spec

variable {σ : Type} [Fintype σ] [DecidableEq σ]

set_option linter.unusedSectionVars false

/-- The library's way of computing one block of an operator matrix in the eigenbasis is a rotation.
`tgt k = some (l, s)` says "the operator maps the Fock state `k` of the right block to `s` times
the Fock state `l` of the left block" (`none`: it annihilates `k`); `Uto`, `Ufrom` are the
eigenvector matrices of the two blocks.  The product of the library's left factor (entry `(n,k)` =
conj `Uto l n`) and right factor (entry `(k,m)` = `s · Ufrom k m`) equals
`Uto† · O · Ufrom`, where `O` is the signed partial-permutation matrix of `tgt`.  Holds for every
map `tgt` and all (not necessarily unitary) matrices. -/
theorem left_right_is_rotation {τ : Type} [Fintype τ] [DecidableEq τ]
    (Uto : Matrix τ τ ℂ) (Ufrom : Matrix σ σ ℂ) (tgt : σ → Option (τ × ℂ)) :
    (Matrix.of fun (n : τ) (k : σ) =>
        match tgt k with | some (l, _) => (starRingEnd ℂ) (Uto l n) | none => 0)
      * (Matrix.of fun (k : σ) (mm : σ) =>
        match tgt k with | some (_, s) => s * Ufrom k mm | none => 0)
    = Utoᴴ * (Matrix.of fun (l : τ) (k : σ) =>
        match tgt k with | some (l', s) => if l' = l then s else 0 | none => 0) * Ufrom := by
  ext n mm
  rw [Matrix.mul_apply, Matrix.mul_apply]
  refine Finset.sum_congr rfl fun k _ => ?_
  rw [Matrix.mul_apply]
  dsimp only [Matrix.of_apply, conjTranspose_apply]
  rcases tgt k with _ | ⟨l', s⟩
  · simp only [mul_zero, Finset.sum_const_zero, zero_mul]
  · simp only [mul_ite, mul_zero, Finset.sum_ite_eq, Finset.mem_univ, if_true]
    rw [starRingEnd_apply, mul_assoc]

/-- Rotation into the eigenbasis preserves the canonical anticommutation relations: if the Fock-space
matrices satisfy `A·B + B·A = δ·1` (e.g. `A = c_i`, `B = c†_j`, `δ = δ_ij`; or `A = c_i`, `B = c_j`,
`δ = 0`) and `V` is unitary, the rotated matrices `V†AV`, `V†BV` satisfy the same relation. -/
theorem rotation_preserves_car (V A B : Matrix σ σ ℂ) (hV : V * Vᴴ = 1) (δ : ℂ)
    (h : A * B + B * A = δ • 1) (hV' : Vᴴ * V = 1) :
    (Vᴴ * A * V) * (Vᴴ * B * V) + (Vᴴ * B * V) * (Vᴴ * A * V) = δ • 1 := by
  rw [rotated_mul hV A B, rotated_mul hV B A, ← Matrix.add_mul, ← Matrix.mul_add, h,
    Matrix.mul_smul, Matrix.mul_one, Matrix.smul_mul, hV']

/-- The adjoint of the rotated matrix is the rotated adjoint: `(V† A V)† = V† A† V` for ALL `V`, `A`.
Hence the annihilation operator the library obtains as the conjugate transpose of the stored
creation-operator matrix is the rotated Fock-space annihilation operator. -/
theorem stored_annihilator_is_adjoint (V A : Matrix σ σ ℂ) : (Vᴴ * A * V)ᴴ = Vᴴ * Aᴴ * V := by
  rw [conjTranspose_mul, conjTranspose_mul, conjTranspose_conjTranspose, Matrix.mul_assoc]

/-- Rotating the stored matrix back with the (unitary) eigenvector matrix returns the Fock-space
matrix: `V (V† A V) V† = A`.  So no information is lost by storing the rotated matrix. -/
theorem rotate_back (V A : Matrix σ σ ℂ) (hV : V * Vᴴ = 1) : V * (Vᴴ * A * V) * Vᴴ = A :=
  Pomerol.Spec.rotate_back V A hV

/-- Concrete instance: one fermionic mode in the basis (|0⟩, |1⟩); with `V = 1` the rotated
annihilator/creator pair obeys `{c, c†} = 1`. -/
example :
    let c : Matrix (Fin 2) (Fin 2) ℂ := !![0, 1; 0, 0]
    let cd : Matrix (Fin 2) (Fin 2) ℂ := !![0, 0; 1, 0]
    let V : Matrix (Fin 2) (Fin 2) ℂ := 1
    (Vᴴ * c * V) * (Vᴴ * cd * V) + (Vᴴ * cd * V) * (Vᴴ * c * V) = (1 : ℂ) • 1 := by
  intro c cd V
  refine rotation_preserves_car V c cd (by simp [V]) 1 ?_ (by simp [V])
  simp only [c, cd, Matrix.mul_fin_two, Matrix.one_fin_two, one_smul]
  norm_num

/-! ### The loops of the library compute these rotated matrices

`Model/FieldPart.lean` is an executable model that follows `FieldOperatorPart::compute` statement by
statement (the loop over the Fock states of the right block, `actRight`, the first returned state and
its amplitude converted to `int`, `getInnerState`, the two dense factors `LeftMat`/`RightMat`, their
product, `sparseView`/`prune`, the row-major and column-major copies) with explicit errors where the
source would throw (`wrongState`) or read outside a matrix (`outOfRange`), and of the adjoint copy
made by `FieldOperatorContainer::computeAll`.  `Spec/FieldPartSpec.lean` proves what it computes.

Setting: `blocks` = the lists of Fock states (bit masks) of all blocks, `blkOf` = the table "block of
a state", `hpart b` = the eigenvector matrix of block `b` (`U fockIndex eigenstate`, `dim` rows);
`FieldPartSpec.Idx blocks` = all (block, inner index) pairs = the full Fock space, `Vfull` = the
block-diagonal matrix of all eigenvectors, `jwFull blocks op` = the Jordan-Wigner matrix of the symbolic
operator `op` on the full Fock space (entries `Operator::getMatrixElement`, proved to be the
Jordan-Wigner representation in `Spec/JW.lean`, `matrixElement_sem`). -/

section Loops
open Pomerol.Model Pomerol.Model.FieldPart Pomerol.Spec.FieldPartSpec
open scoped Pomerol.Spec.Exact

/-- **The loops compute the rotated Jordan-Wigner operator.**  For the part `<l| op |r>`:
`FieldOperatorPart::compute` finishes without an error, the stored matrix has one row per state of the
left block and one column per state of the right block, and BOTH stored copies (row-major and
column-major) hold, entry by entry, the `(l,r)` block of `Uᴴ · JW(op) · U`.

Hypotheses: the two blocks list no state twice and the table `blkOf` agrees with the lists (C07); the
eigenvector matrices have not been truncated; `op` sends every state of the right block into the left
block or annihilates it (`hinto`, the single-target property of C07).  Because the source only looks
at the FIRST state returned by `actRight` and converts its amplitude to `int`, the operator must
return at most one state (`hsingle`) with an integer amplitude (`hint`); for `c_i`, `c†_i`,
`c†_i c_j` this always holds, see `loops_compute_rotated_operator_presets`. -/
theorem loops_compute_rotated_operator (realBuild : Bool) (blkOf : List ℕ) (blocks : List (List ℕ))
    (hpart : ℕ → HPart ℂ) (op : Poly ℂ) (l r : Fin blocks.length)
    (hcls : ∀ b s, s ∈ blocks.getD b [] → blkOf[s]? = some b)
    (hndl : (blocks.get l).Nodup) (hndr : (blocks.get r).Nodup)
    (hdiml : (blocks.get l).length ≤ (hpart l).dim) (hdimr : (blocks.get r).length ≤ (hpart r).dim)
    (hsingle : ∀ f ∈ blocks.get r, (actPoly op f).length ≤ 1)
    (hinto : ∀ f ∈ blocks.get r, ∀ x ∈ actPoly op f, x.1 ∈ blocks.get l)
    (hint : ∀ f ∈ blocks.get r, ∀ x ∈ actPoly op f, ((truncZ x.2.re : ℤ) : ℂ) = x.2) :
    ∃ S, computeBlocks realBuild blkOf blocks hpart l r op = .ok S ∧
      S.rows = (blocks.get l).length ∧ S.cols = (blocks.get r).length ∧
      ∀ (n : Fin (blocks.get l).length) (m : Fin (blocks.get r).length),
        S.coeffRow n m
          = ((Vfull blocks hpart)ᴴ * jwFull blocks op * Vfull blocks hpart) ⟨l, n⟩ ⟨r, m⟩ ∧
        S.coeffCol n m
          = ((Vfull blocks hpart)ᴴ * jwFull blocks op * Vfull blocks hpart) ⟨l, n⟩ ⟨r, m⟩ := by
  obtain ⟨S, hS, hrows, hcols, hval⟩ :=
    compute_pair (pairOK_blocks hcls hndl hndr hdiml hdimr hsingle hinto hint) realBuild
  refine ⟨S, (computeBlocks_eq ..).trans hS, hrows, hcols, fun n m => ?_⟩
  rw [rotated_block_entry]
  exact hval n m n.2 m.2

/-- The same for the operators the library actually uses -- one monomial with coefficient 1
(`opC i = [([c_i], 1)]`, `opCdag i`, `opNOffdiag i j`): the only hypothesis on the operator is the
single-target property, stated on the bit-mask action `actMono` (so it can be checked by evaluation
for concrete blocks). -/
theorem loops_compute_rotated_operator_presets (realBuild : Bool) (blkOf : List ℕ)
    (blocks : List (List ℕ)) (hpart : ℕ → HPart ℂ) (mono : Mono) (l r : Fin blocks.length)
    (hcls : ∀ b s, s ∈ blocks.getD b [] → blkOf[s]? = some b)
    (hndl : (blocks.get l).Nodup) (hndr : (blocks.get r).Nodup)
    (hdiml : (blocks.get l).length ≤ (hpart l).dim) (hdimr : (blocks.get r).length ≤ (hpart r).dim)
    (hinto : ∀ f ∈ blocks.get r, ∀ q ∈ actMono mono f, q.1 ∈ blocks.get l) :
    ∃ S, computeBlocks realBuild blkOf blocks hpart l r [(mono, (1 : ℂ))] = .ok S ∧
      S.rows = (blocks.get l).length ∧ S.cols = (blocks.get r).length ∧
      ∀ (n : Fin (blocks.get l).length) (m : Fin (blocks.get r).length),
        S.coeffRow n m
          = ((Vfull blocks hpart)ᴴ * jwFull blocks [(mono, (1 : ℂ))] * Vfull blocks hpart)
              ⟨l, n⟩ ⟨r, m⟩ ∧
        S.coeffCol n m
          = ((Vfull blocks hpart)ᴴ * jwFull blocks [(mono, (1 : ℂ))] * Vfull blocks hpart)
              ⟨l, n⟩ ⟨r, m⟩ := by
  obtain ⟨h1, h2, h3⟩ := mono1_ok mono _ _ hinto
  exact loops_compute_rotated_operator realBuild blkOf blocks hpart _ l r hcls hndl hndr hdiml
    hdimr h1 h2 h3

/-- `FieldOperator::prepare` pairs the right block `r` with the block `l = mapsTo(r)` of the first
state reached from `r`.  When all states reached from block `r` lie in one block (single-target
property, C07) and the table `blkOf` agrees with the lists of states, this `l` satisfies the
hypothesis `hinto` above: `prepare` creates exactly the parts for which the loops are correct. -/
theorem prepare_pairs_the_right_blocks (op : Poly ℂ) (blkOf : List ℕ) (blocks : List (List ℕ))
    (r : Fin blocks.length) (l : ℕ)
    (hmap : Symm.mapsTo op blkOf (blocks.get r) = some l)
    (hcls' : ∀ s b, blkOf[s]? = some b → s ∈ blocks.getD b [])
    (hsame : ∀ f ∈ blocks.get r, ∀ f' ∈ blocks.get r, ∀ x ∈ actPoly op f, ∀ x' ∈ actPoly op f',
      blkOf[x.1]? = blkOf[x'.1]?) :
    ∀ f ∈ blocks.get r, ∀ x ∈ actPoly op f, x.1 ∈ blocks.getD l [] := by
  obtain ⟨f0, hf0, x0, hx0, hl⟩ := mapsTo_eq_some hmap
  intro f hf x hx
  exact hcls' x.1 l ((hsame f hf f0 hf0 x hx x0 hx0).trans hl)

/-- The Jordan-Wigner matrix of the adjoint symbolic operator (reversed monomials with creation and
annihilation exchanged, conjugated coefficients) is the conjugate transpose of the Jordan-Wigner
matrix of the operator; so `stored_annihilator_is_adjoint` applies with `A = JW(c†_i)`,
`Aᴴ = JW(c_i)`. -/
theorem jw_of_adjoint_operator (blocks : List (List ℕ)) (op : Poly ℂ) :
    jwFull blocks (adjPoly op) = (jwFull blocks op)ᴴ := by
  ext k l
  rw [conjTranspose_apply]
  exact matrixElement_adjPoly op _ _

/-- **The copy made by the container is the annihilation operator.**
`FieldOperatorContainer::computeAll` does not run `compute` for the annihilation operator: the part of
`c` whose right block is `l` receives the adjoint (stored copies exchanged, values conjugated) of the
part `<l| c† |r>` of the creation operator.  That copy is EXACTLY the object `compute` would have
produced for the part `<r| c |l>` -- same entries, same storage order, both copies.  Stated for every
operator `op` and its adjoint `adjPoly op` (`adjPoly (opCdag i) = opC i`), under the hypotheses of
`loops_compute_rotated_operator` for both operators. -/
theorem container_copy_is_annihilator (realBuild : Bool) (blkOf : List ℕ)
    (blocks : List (List ℕ)) (hpart : ℕ → HPart ℂ) (op : Poly ℂ) (l r : Fin blocks.length)
    (hcls : ∀ b s, s ∈ blocks.getD b [] → blkOf[s]? = some b)
    (hndl : (blocks.get l).Nodup) (hndr : (blocks.get r).Nodup)
    (hdiml : (blocks.get l).length ≤ (hpart l).dim) (hdimr : (blocks.get r).length ≤ (hpart r).dim)
    (hsingle : ∀ f ∈ blocks.get r, (actPoly op f).length ≤ 1)
    (hinto : ∀ f ∈ blocks.get r, ∀ x ∈ actPoly op f, x.1 ∈ blocks.get l)
    (hint : ∀ f ∈ blocks.get r, ∀ x ∈ actPoly op f, ((truncZ x.2.re : ℤ) : ℂ) = x.2)
    (hsingle' : ∀ f ∈ blocks.get l, (actPoly (adjPoly op) f).length ≤ 1)
    (hinto' : ∀ f ∈ blocks.get l, ∀ x ∈ actPoly (adjPoly op) f, x.1 ∈ blocks.get r)
    (hint' : ∀ f ∈ blocks.get l, ∀ x ∈ actPoly (adjPoly op) f, ((truncZ x.2.re : ℤ) : ℂ) = x.2) :
    ∃ S, computeBlocks realBuild blkOf blocks hpart l r op = .ok S ∧
      computeBlocks realBuild blkOf blocks hpart r l (adjPoly op) = .ok (adjointCopy S) := by
  rw [computeBlocks_eq, computeBlocks_eq]
  exact adjoint_copy_pair (pairOK_blocks hcls hndl hndr hdiml hdimr hsingle hinto hint)
    (pairOK_blocks hcls hndr hndl hdimr hdiml hsingle' hinto' hint') (matrixElement_adjPoly op)
    realBuild

/-- The same for `c†_i` / `c_i` (`mono = [c†_i]`, `adjMono mono = [c_i]`) and every other single
monomial: only the single-target properties of the monomial and of its adjoint are needed. -/
theorem container_copy_is_annihilator_presets (realBuild : Bool) (blkOf : List ℕ)
    (blocks : List (List ℕ)) (hpart : ℕ → HPart ℂ) (mono : Mono) (l r : Fin blocks.length)
    (hcls : ∀ b s, s ∈ blocks.getD b [] → blkOf[s]? = some b)
    (hndl : (blocks.get l).Nodup) (hndr : (blocks.get r).Nodup)
    (hdiml : (blocks.get l).length ≤ (hpart l).dim) (hdimr : (blocks.get r).length ≤ (hpart r).dim)
    (hinto : ∀ f ∈ blocks.get r, ∀ q ∈ actMono mono f, q.1 ∈ blocks.get l)
    (hinto' : ∀ f ∈ blocks.get l, ∀ q ∈ actMono (adjMono mono) f, q.1 ∈ blocks.get r) :
    ∃ S, computeBlocks realBuild blkOf blocks hpart l r [(mono, (1 : ℂ))] = .ok S ∧
      computeBlocks realBuild blkOf blocks hpart r l [(adjMono mono, (1 : ℂ))]
        = .ok (adjointCopy S) := by
  obtain ⟨h1, h2, h3⟩ := mono1_ok mono _ _ hinto
  obtain ⟨h1', h2', h3'⟩ := mono1_ok (adjMono mono) _ _ hinto'
  have h := container_copy_is_annihilator realBuild blkOf blocks hpart [(mono, (1 : ℂ))] l r hcls
    hndl hndr hdiml hdimr h1 h2 h3 (by rwa [adjPoly_mono1]) (by rwa [adjPoly_mono1])
    (by rwa [adjPoly_mono1])
  rwa [adjPoly_mono1] at h

/-- Concrete instance (2 modes, blocks `{00}`, `{01,10}`, `{11}`, complex eigenvector matrix
`[[1,i],[i,1]]` of the middle block): all hypotheses hold for `c†_0` from the one-particle block
into the two-particle block and for `c_0` back, hence the part of `c_0` the container stores is the
one `compute` would produce. -/
example : ∃ S, computeBlocks false exBlkOf exBlocks exHPart 2 1 [([⟨false, 0⟩], (1 : ℂ))] = .ok S ∧
    computeBlocks false exBlkOf exBlocks exHPart 1 2 [([⟨true, 0⟩], (1 : ℂ))]
      = .ok (adjointCopy S) :=
  container_copy_is_annihilator_presets false exBlkOf exBlocks exHPart [⟨false, 0⟩]
    (⟨2, by decide⟩ : Fin exBlocks.length) (⟨1, by decide⟩ : Fin exBlocks.length) ex_cls
    (by decide) (by decide) (Nat.le_refl _) (Nat.le_refl _)
    (by decide) (by decide)

end Loops

/-! ### Runs of the executable model on 2 modes (exact integer matrix elements)

Blocks `{00}`, `{01,10}`, `{11}` = bit masks `[[0],[1,2],[3]]`; eigenvector matrix of the middle
block `[[1,1],[1,-1]]` (columns = eigenvectors), `(1)` for the other two. -/

section Runs
open Pomerol.Model Pomerol.Model.FieldPart
open scoped Pomerol.Model.FieldPart.IntScalars

/-- the three `HamiltonianPart`s -/
def runHPart : ℕ → HPart Int
  | 1 => ⟨2, fun i j => if i = 1 ∧ j = 1 then -1 else 1⟩
  | _ => ⟨1, fun _ _ => 1⟩

/-- the same after `Hamiltonian::reduce` kept ONE eigenstate of the middle block -/
def runHPartReduced : ℕ → HPart Int
  | 1 => ⟨1, fun _ _ => 1⟩
  | _ => ⟨1, fun _ _ => 1⟩

/-- `<{11}| c†_1 |{01,10}>`: `c†_1|01⟩ = −|11⟩` (one occupied mode below), `c†_1|10⟩ = 0`; rotated with
the eigenvectors: the row `(−1, −1)`.  Stored row-major as one row, column-major as two columns. -/
example : computeBlocks false [0, 1, 1, 2] [[0], [1, 2], [3]] runHPart 2 1 (opCdag 1)
    = .ok ⟨1, 2, [[(0, -1), (1, -1)]], [[(0, -1)], [(0, -1)]]⟩ := by decide

/-- the container's copy of it is what `compute` gives for `<{01,10}| c_1 |{11}>` -/
example : (computeBlocks false [0, 1, 1, 2] [[0], [1, 2], [3]] runHPart 2 1 (opCdag 1)).map
      adjointCopy
    = computeBlocks false [0, 1, 1, 2] [[0], [1, 2], [3]] runHPart 1 2 (opC 1) := by decide

/-- entries that cancel are not stored: `<{11}| (c†_0 + c†_1) |{01,10}>` has the dense row `(0, −2)` -/
example : computeBlocks true [0, 1, 1, 2] [[0], [1, 2], [3]] runHPart 2 1
      [([⟨false, 0⟩], 1), ([⟨false, 1⟩], 1)]
    = .ok ⟨1, 2, [[(1, -2)]], [[], [(0, -2)]]⟩ := by decide

/-- WHY the single-target hypothesis is needed: asked for the part `<{00}| c†_0 |{01,10}>` (which is
zero: `c†_0` maps the one-particle block into `{11}`), the source takes the inner index of `|11⟩` in
ITS block and reads the eigenvector matrix of `{00}` with it -- no error, a non-zero result.  The
library never asks for such a part because `FieldOperator::prepare` pairs the blocks via `mapsTo`. -/
example : computeBlocks false [0, 1, 1, 2] [[0], [1, 2], [3]] runHPart 0 1 (opCdag 0)
    = .ok ⟨1, 2, [[(0, 1), (1, -1)]], [[(0, 1)], [(0, -1)]]⟩ := by decide

/-- WHY the eigenvector matrices must not be truncated: after `Hamiltonian::reduce` the loops over
`n < toStates.size()` / `m < fromStates.size()` read outside the reduced matrix. -/
example : computeBlocks false [0, 1, 1, 2] [[0], [1, 2], [3]] runHPartReduced 2 1 (opCdag 1)
    = .error .outOfRange := by decide

end Runs

end Pomerol.Properties.C10
