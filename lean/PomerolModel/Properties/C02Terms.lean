/-
  Property C02 (term containers of the two-particle Green's function).

  `TwoParticleGFPart` keeps the non-resonant and the resonant terms of one world stripe in two
  `TermList`s (`include/pomerol/TermList.h`, model `Model/TermList.lean`: find / erase / merge with
  `operator+=` / negligibility test with divisor `size + 1`).  The comparison of both containers is
  `Gen.Chi4.termLess`, EXTRACTED from `NonResonantTerm::Compare` / `ResonantTerm::Compare`; the key of
  a term is `(flag, P₁, P₂, P₃)`.  `operator+=` adds the coefficient(s); a resonant term carries two
  coefficients (`ResCoeff`, `NonResCoeff`), both are added (modelled as the pair, `Prod` addition).
  IDEALISATION: the MODEL keeps the key of the stored term (`Model/TermList.lean`, `pole := e.pole`, as
  `TermList.h` does for the single-particle terms), while `operator+=` of the two-particle terms
  (`TwoParticleGFPart.cpp`) replaces the three poles by their `Weight`-weighted average.  The theorems
  below are about the model with the key kept.  The negligibility tests
  `abs(Coeff) < Tolerance / ToleranceDivisor` and
  `abs(ResCoeff) < Tolerance / ToleranceDivisor && abs(NonResCoeff) < Tolerance / ToleranceDivisor`
  are EXTRACTED as well (`Gen.Chi4.termNegligibleNonRes`, `Gen.Chi4.termNegligibleRes`, and their tolerances
  `tolNegligibleNonRes`, `tolNegligibleRes`); the behaviour of the real containers on merge-heavy inputs is
  compared with the definition by the pipeline cases of C02 / C12 (free clusters, exact cancellations).

  What is proved, for EVERY sequence of terms handed to `add_term`, every positive comparison
  tolerance and every negligibility tolerance:
    * the extracted comparison is irreflexive (what `TermList` needs so that the found term is the
      erased one);
    * the stored terms stay pairwise inequivalent;
    * coefficients are conserved: kept + dropped = added (component-wise for resonant terms);
    * a term leaves the container only because the negligibility test fired on the merged coefficient(s),
      i.e. its modulus is below `Tolerance / n` for some container size `n ≥ 1`.
  NOT claimed: that merging terms whose poles differ by less than the tolerance leaves the VALUE
  unchanged -- it does not (finding F16; `Properties/C02.lean`, `term_order_not_strict_weak`).
-/
import PomerolModel.Properties.C01

namespace Pomerol.Properties.C02Terms
open Pomerol Pomerol.Spec Pomerol.Model.TermList Pomerol.Properties.C01

/-- key of a two-particle term: `(isz4 | isz1z2, Poles[0], Poles[1], Poles[2])` -/
abbrev Key := Bool × ℝ × ℝ × ℝ

/-- `Compare::operator()` of both term types on keys (the extracted `Gen.Chi4.termLess`) -/
noncomputable def keyLess (tol : ℝ) (a b : Key) : Bool :=
  Gen.Chi4.termLess a.1 a.2.1 a.2.2.1 a.2.2.2 b.1 b.2.1 b.2.2.1 b.2.2.2 tol

/-- `NonResonantTerm::IsNegligible` (EXTRACTED: `Gen.Chi4.termNegligibleNonRes`) at container size `n` -/
noncomputable def neglNonRes (ntol : ℝ) (c : ℂ) (n : ℕ) : Bool :=
  Gen.Chi4.termNegligibleNonRes c ntol (n : ℝ)

/-- `ResonantTerm::IsNegligible` (EXTRACTED: `Gen.Chi4.termNegligibleRes`) on `(ResCoeff, NonResCoeff)` -/
noncomputable def neglRes (ntol : ℝ) (c : ℂ × ℂ) (n : ℕ) : Bool :=
  Gen.Chi4.termNegligibleRes c.1 c.2 ntol (n : ℝ)

/-- THE EXTRACTED COMPARISON IS IRREFLEXIVE for every positive tolerance: no term is less than
itself (the two `real_eq` tests succeed at equal poles and `q₂ − p₂ ≥ Tolerance` fails). -/
theorem keyLess_irrefl (tol : ℝ) (htol : 0 < tol) (a : Key) : keyLess tol a a = false := by
  obtain ⟨f, p0, p1, p2⟩ := a
  have h0 : Pomerol.absR (0 : ℝ) < tol := by rw [Pomerol.absR, if_neg (lt_irrefl 0)]; exact htol
  simp [keyLess, Gen.Chi4.termLess, h0, htol]

/-- ... and also for a tolerance `≤ 0` (then `real_eq` fails even at equal poles and the strict
comparison `p₀ < p₀` decides): irreflexivity does not depend on the tolerance at all. -/
theorem keyLess_irrefl_nonpos (tol : ℝ) (htol : tol ≤ 0) (a : Key) : keyLess tol a a = false := by
  obtain ⟨f, p0, p1, p2⟩ := a
  have h0 : ¬ Pomerol.absR (0 : ℝ) < tol := by
    rw [Pomerol.absR, if_neg (lt_irrefl 0)]; exact not_lt.mpr htol
  simp [keyLess, Gen.Chi4.termLess, h0]

section Budget
variable {K : Type} [AddCommMonoid K]

/-- general form: any coefficient type, any negligibility test, any positive comparison tolerance -/
theorem container_budget (tol : ℝ) (htol : 0 < tol) (negl : K → ℕ → Bool) (ts : List (Term K Key)) :
    Inv (keyLess tol) (addAll (keyLess tol) negl [] [] ts).1 ∧
    ((addAll (keyLess tol) negl [] [] ts).1.map (·.res)).sum
        + ((addAll (keyLess tol) negl [] [] ts).2.map (·.res)).sum = (ts.map (·.res)).sum ∧
    ∀ x ∈ (addAll (keyLess tol) negl [] [] ts).2, ∃ n, 0 < n ∧ negl x.res n = true := by
  obtain ⟨h1, h2, h3⟩ := addAll_spec negl (keyLess_irrefl tol htol) (fun t : Term K Key => t.res)
    (fun _ _ _ => rfl) ts [] [] List.Pairwise.nil
  refine ⟨h1, h2.trans (nil_sums _ _), fun x hx => ?_⟩
  rcases h3 x hx with h | h
  · simp at h
  · exact h

end Budget

/-- NON-RESONANT TERMS: coefficients are conserved and a term is dropped only with
`|Coeff| < Tolerance / n` for some container size `n ≥ 1`. -/
theorem nonresonant_terms_budget (tol ntol : ℝ) (htol : 0 < tol) (ts : List (Term ℂ Key)) :
    let r := addAll (keyLess tol) (neglNonRes ntol) [] [] ts
    Inv (keyLess tol) r.1 ∧
    (r.1.map (·.res)).sum + (r.2.map (·.res)).sum = (ts.map (·.res)).sum ∧
    ∀ x ∈ r.2, ∃ n : ℕ, 0 < n ∧ ‖x.res‖ < ntol / (n : ℝ) := by
  intro r
  obtain ⟨h1, h2, h3⟩ := container_budget tol htol (neglNonRes ntol) ts
  refine ⟨h1, h2, fun x hx => ?_⟩
  obtain ⟨n, hn, h⟩ := h3 x hx
  exact ⟨n, hn, by
    simpa only [neglNonRes, Gen.Chi4.termNegligibleNonRes, decide_eq_true_iff, Bridge.abs_eq] using h⟩

/-- RESONANT TERMS: both coefficients are conserved; a term with one small and one large coefficient
is never dropped. -/
theorem resonant_terms_budget (tol ntol : ℝ) (htol : 0 < tol) (ts : List (Term (ℂ × ℂ) Key)) :
    let r := addAll (keyLess tol) (neglRes ntol) [] [] ts
    Inv (keyLess tol) r.1 ∧
    (r.1.map (·.res.1)).sum + (r.2.map (·.res.1)).sum = (ts.map (·.res.1)).sum ∧
    (r.1.map (·.res.2)).sum + (r.2.map (·.res.2)).sum = (ts.map (·.res.2)).sum ∧
    ∀ x ∈ r.2, ∃ n : ℕ, 0 < n ∧ ‖x.res.1‖ < ntol / (n : ℝ) ∧ ‖x.res.2‖ < ntol / (n : ℝ) := by
  intro r
  have hirr := keyLess_irrefl tol htol
  obtain ⟨h1, h2, h3⟩ := addAll_spec (neglRes ntol) hirr (fun t : Term (ℂ × ℂ) Key => t.res.1)
    (fun _ _ _ => rfl) ts [] [] List.Pairwise.nil
  obtain ⟨-, g2, -⟩ := addAll_spec (neglRes ntol) hirr (fun t : Term (ℂ × ℂ) Key => t.res.2)
    (fun _ _ _ => rfl) ts [] [] List.Pairwise.nil
  refine ⟨h1, h2.trans (nil_sums _ _), g2.trans (nil_sums _ _), fun x hx => ?_⟩
  rcases h3 x hx with h | h
  · simp at h
  · obtain ⟨n, hn, h⟩ := h
    refine ⟨n, hn, ?_⟩
    simpa only [neglRes, Gen.Chi4.termNegligibleRes, decide_eq_true_iff, Bridge.abs_eq] using h

/-- IN THE EXACT IDEALISATION (tolerance-free comparison: only terms with EQUAL keys are
equivalent) the value of the container is conserved as well, for ANY evaluation function of
(coefficient, key) that is additive in the coefficient. -/
theorem exact_merge_preserves_value {K V : Type} [Add K] [AddCommMonoid V] (less : Key → Key → Bool)
    (hirr : ∀ p, less p p = false)
    (hexact : ∀ p q, (!less p q && !less q p) = true → p = q)
    (negl : K → ℕ → Bool) (ev : K → Key → V) (hev : ∀ a b k, ev (a + b) k = ev a k + ev b k)
    (ts : List (Term K Key)) :
    ((addAll less negl [] [] ts).1.map fun t => ev t.res t.pole).sum
      + ((addAll less negl [] [] ts).2.map fun t => ev t.res t.pole).sum
      = (ts.map fun t => ev t.res t.pole).sum := by
  obtain ⟨-, h2, -⟩ := addAll_spec negl hirr (fun t : Term K Key => ev t.res t.pole)
    (fun e t h => by
      have hp : e.pole = t.pole := hexact _ _ h
      simp only [hev, hp]) ts [] [] List.Pairwise.nil
  exact h2.trans (nil_sums _ _)

/-- Non-vacuity, exact arithmetic over `ℤ` with the extracted comparison shape (keys as integers,
tolerance-free): two terms with the same key and opposite coefficients are merged and the merged zero
term is dropped; the term with the other flag is kept. -/
example :
    let less : (Bool × ℤ × ℤ × ℤ) → (Bool × ℤ × ℤ × ℤ) → Bool := fun a b =>
      if a.1 = b.1 then decide (a.2.2.2 < b.2.2.2) else (!a.1 && b.1)
    let r := addAll (K := ℤ) less (fun c _ => c == 0) [] []
      [⟨3, (false, 1, 2, 3)⟩, ⟨5, (true, 1, 2, 3)⟩, ⟨-3, (false, 1, 2, 3)⟩]
    (r.1.map fun t => (t.res, t.pole)) = [(5, (true, 1, 2, 3))] ∧
    (r.2.map fun t => (t.res, t.pole)) = [(0, (false, 1, 2, 3))] := by
  decide

end Pomerol.Properties.C02Terms
