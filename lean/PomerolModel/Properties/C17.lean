/-
  Property C17: memory safety of the index-chasing loops and the other extracted memory-safety facts.

  The merge walk over two sparse inner iterators (`Model/Chase.lean`) never reads the index of an
  exhausted iterator when the advancing `for` loops test the iterator first -- for EVERY pair of index
  lists, sorted or not -- and terminates within its fuel; on sorted (strictly increasing) rows/columns
  it returns exactly the common inner indices, in order.  The flags saying what the source does are
  extracted from the C++ (`Generated/CoreFlags.lean`) and re-checked on every run.

  Three further theorems audited for C17 stand next to the functional correctness of their loops:
  `Chi4Refine.compute_in_bounds`, `GFRefine.gfpart_contributions_source`, `AveragesSpec.occupancy_is_trace`.
-/
import PomerolModel.Spec.ChaseProps
import PomerolModel.Properties.C15
import PomerolModel.Spec.CAR
import PomerolModel.Spec.IndexBij

namespace Pomerol.Properties.C17
open Pomerol.Model.Chase

/-- with the iterator tested first, advancing never reads past the end, for EVERY list, target and
start position -/
theorem advance_in_bounds (l : List Nat) (target pos : Nat) (hp : pos ≤ l.length) :
    ∃ pos', advance true l target (l.length + 1 - pos) pos = .ok pos' ∧ pos ≤ pos' ∧ pos' ≤ l.length ∧
      (∀ k, pos ≤ k → k < pos' → ∃ x, l[k]? = some x ∧ x < target) ∧
      (pos' < l.length → ∃ x, l[pos']? = some x ∧ ¬ x < target) :=
  Pomerol.Spec.ChaseProps.advance_spec l target _ pos hp (Nat.le_refl _)

/-- THE MERGE WALK NEVER READS OUT OF BOUNDS, for every pair of index lists (sorted or not), and
terminates within its fuel -/
theorem merge_walk_in_bounds (a b : List Nat) : ∃ r, commonIndices true a b = .ok r := by
  unfold commonIndices
  exact (Pomerol.Spec.ChaseProps.mergeWalk_spec a b _ 0 0 [] (Nat.zero_le _) (Nat.zero_le _)
    (Nat.lt_succ_self _)).imp fun _ h => h.1

/-- ... and for sorted rows/columns it returns exactly the common inner indices, in order -/
theorem merge_walk_common (a b : List Nat) (ha : Sorted a) (hb : Sorted b) :
    commonIndices true a b = .ok (a.filter (· ∈ b)) :=
  Pomerol.Spec.ChaseProps.commonIndices_sorted a b ha hb

/-- all six call sites of the source test the iterator first -/
theorem source_guards_first :
    Pomerol.Gen.Core.chaseGuardFirst = [true, true, true, true, true, true] := by decide

theorem every_call_site_in_bounds (a b : List Nat) :
    ∀ g ∈ Pomerol.Gen.Core.chaseGuardFirst, ∃ r, commonIndices g a b = .ok r := by
  rw [source_guards_first]
  intro g hg
  have : g = true := by simpa using hg
  subst this
  exact merge_walk_in_bounds a b

/-- REGRESSION (the defect that was fixed): reading the index before testing the iterator runs past
the end -/
theorem unguarded_chase_overruns : commonIndices false [0, 1] [2] = .error .readPastEnd := by decide

/-- other extracted memory-safety facts: the reduction buffer is taken with data(), the operator
comparison tests the lengths, the state-label bounds tests are inclusive -/
theorem source_memory_safety_flags :
    Pomerol.Gen.Core.reduceUsesData = true ∧ Pomerol.Gen.Core.eqLengthTest = true ∧
      Pomerol.Gen.Core.stateBoundsInclusive = true := by decide

/-- Matsubara storage: `fill` and the subsequent read never access the storage out of range
(`C15.fill_lookup_transparent`) -/
theorem matsubara_storage_in_bounds {α : Type} (f : Pomerol.Model.MC4.Source α) (N : Nat)
    (n1 n2 n3 : Int) :
    ∃ c, Pomerol.Model.MC4.fill f (N : Int) = .ok c ∧
      Pomerol.Model.MC4.lookup c f n1 n2 n3 = .ok (f n1 n2 n3) :=
  Pomerol.Properties.C15.fill_lookup_transparent f N n1 n2 n3

section
open Pomerol.Model

private theorem monoPrefixEq_total (a b : Mono) (h : a.length = b.length) :
    ∃ r, monoPrefixEq a b = some r := by
  induction a generalizing b with
  | nil => exact ⟨true, by cases b <;> rfl⟩
  | cons x a ih =>
    cases b with
    | nil => simp at h
    | cons y b =>
      simp only [List.length_cons, Nat.add_right_cancel_iff] at h
      unfold monoPrefixEq
      by_cases hxy : x = y
      · rw [if_pos hxy]; exact ih b h
      · rw [if_neg hxy]; exact ⟨false, rfl⟩

variable {K : Type} [Add K] [Sub K] [Mul K] [Neg K] [Zero K] [One K] [CoefTest K]

omit [Add K] [Mul K] [Neg K] [Zero K] [One K] in
private theorem termEq_total (l r : Mono × K) : ∃ b, termEq true l r = some b := by
  unfold termEq
  by_cases hl : l.1.length = r.1.length
  · obtain ⟨c, hc⟩ := monoPrefixEq_total l.1 r.1 hl
    simp only [Bool.true_and, hl, ne_eq, not_true_eq_false, decide_false, Bool.false_eq_true,
      if_false, hc]
    exact ⟨_, rfl⟩
  · simp only [Bool.true_and, ne_eq, hl, not_false_eq_true, decide_true, if_true]
    exact ⟨_, rfl⟩

omit [Add K] [Mul K] [Neg K] [Zero K] [One K] in
private theorem eqCoded_go_total (p q : Poly K) : ∃ b, Poly.eqCoded.go true p q = some b := by
  induction p generalizing q with
  | nil => exact ⟨true, by unfold Poly.eqCoded.go; rfl⟩
  | cons x p ih =>
    cases q with
    | nil => exact ⟨true, by unfold Poly.eqCoded.go; rfl⟩
    | cons y q =>
      unfold Poly.eqCoded.go
      obtain ⟨c, hc⟩ := termEq_total x y
      rw [hc]
      cases c
      · exact ⟨false, rfl⟩
      · exact ih q

omit [Add K] [Mul K] [Neg K] [Zero K] [One K] in
/-- the operator comparison as the source performs it never reads out of bounds, WHATEVER the tolerance
test on the coefficients is (no algebraic assumption on the coefficient type) -/
theorem operator_comparison_in_bounds_any_tolerance (p q : Poly K) :
    ∃ b, Poly.eqCoded Pomerol.Gen.Core.eqLengthTest p q = some b := by
  have hflag : Pomerol.Gen.Core.eqLengthTest = true := by decide
  rw [hflag]
  unfold Poly.eqCoded
  by_cases h : p.length ≠ q.length
  · rw [if_pos h]; exact ⟨false, rfl⟩
  · rw [if_neg h]; exact eqCoded_go_total p q

end

open scoped Pomerol.Spec.Exact in
/-- the operator comparison as the source performs it never reads out of bounds: the instance of
`operator_comparison_in_bounds_any_tolerance` with the exact coefficient test -/
theorem operator_comparison_in_bounds {K : Type} [CommRing K] [DecidableEq K]
    (p q : Pomerol.Model.Poly K) :
    ∃ b, Pomerol.Model.Poly.eqCoded Pomerol.Gen.Core.eqLengthTest p q = some b :=
  operator_comparison_in_bounds_any_tolerance p q

theorem index_table_no_null_slot (sites : List Pomerol.Model.Lat.Site) (mode : Bool) :
    Pomerol.Model.Idx.prepare sites mode = .ok (Pomerol.Model.Idx.enumerate sites mode) :=
  Pomerol.Spec.IndexBij.prepare_ok sites mode

end Pomerol.Properties.C17

