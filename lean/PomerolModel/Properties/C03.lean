/-
  Property C03: diagonalising the Hamiltonian block by block (one block per invariant subspace /
  set of quantum numbers) and assembling the results gives a correct eigen-decomposition of the
  full Fock-space Hamiltonian, with the full spectrum (multiplicities included).

  Setting: `B` is the finite set of blocks, `m b` the index set of block `b`, the full index set is
  the disjoint union `Σ b, m b`; `Hb b` is the Hamiltonian of block `b`, `U b` the matrix whose
  columns are the eigenvectors the library stores for block `b`, `E b i` the stored eigenvalues.
  `BlockEigen Hb U E` is what the dense eigensolver guarantees PER BLOCK:
  `U b† U b = 1` and `Hb b · U b = U b · diag(E b)`.

  Lemmas: `Spec/Blocks.lean` (blocks), `Spec/HamSpectrumSpec.lean` (bookkeeping).
-/
import PomerolModel.Spec.Blocks
import PomerolModel.Spec.HamSpectrumSpec
import Mathlib.Data.Multiset.AddSub
import Mathlib.Tactic.NormNum.Basic

namespace Pomerol.Properties.C03
open Matrix Polynomial Pomerol.Spec

variable {B : Type} [Fintype B] [DecidableEq B] {m : B → Type} [∀ b, Fintype (m b)]
  [∀ b, DecidableEq (m b)]

set_option linter.unusedSectionVars false

/-- If every block's eigenvector matrix is unitary (`U b† U b = 1`), the assembled block-diagonal
eigenvector matrix of the whole Fock space is unitary, from both sides. -/
theorem assembled_unitary (U : ∀ b, Matrix (m b) (m b) ℂ) (hU : ∀ b, (U b)ᴴ * U b = 1) :
    (blockDiagonal' U)ᴴ * blockDiagonal' U = 1 ∧ blockDiagonal' U * (blockDiagonal' U)ᴴ = 1 :=
  block_unitary U hU

/-- The assembled eigenvector matrix diagonalises the assembled Hamiltonian:
`H · U = U · diag(E)`, where `H`, `U` are the block-diagonal matrices built from the blocks and `E`
lists the eigenvalues of all blocks. -/
theorem assembled_diagonalises {Hb : ∀ b, Matrix (m b) (m b) ℂ} {U : ∀ b, Matrix (m b) (m b) ℂ}
    {E : ∀ b, m b → ℝ} (h : BlockEigen (m := m) Hb U E) :
    blockDiagonal' Hb * blockDiagonal' U
      = blockDiagonal' U * diagonal (fun k : Σ b, m b => (E k.1 k.2 : ℂ)) :=
  block_eigen h

/-- Column `k = ⟨b, i⟩` of the assembled matrix is an eigenvector of the full Hamiltonian with
eigenvalue `E b i`: `H v_k = E_k v_k`. -/
theorem eigenvectors {Hb : ∀ b, Matrix (m b) (m b) ℂ} {U : ∀ b, Matrix (m b) (m b) ℂ}
    {E : ∀ b, m b → ℝ} (h : BlockEigen (m := m) Hb U E) (k : Σ b, m b) :
    (blockDiagonal' Hb).mulVec (fun f => blockDiagonal' U f k)
      = (E k.1 k.2 : ℂ) • (fun f => blockDiagonal' U f k) := by
  funext f
  have := congrFun (congrFun (block_eigen h) f) k
  rw [mul_apply, mul_diagonal] at this
  simp only [mulVec, dotProduct, Pi.smul_apply, smul_eq_mul]
  rw [this, mul_comm]

/-- The assembled eigenvectors are orthonormal: `⟨v_k, v_l⟩ = δ_kl`, also for `k`, `l` in different
blocks. -/
theorem orthonormal {Hb : ∀ b, Matrix (m b) (m b) ℂ} {U : ∀ b, Matrix (m b) (m b) ℂ}
    {E : ∀ b, m b → ℝ} (h : BlockEigen (m := m) Hb U E) (k l : Σ b, m b) :
    ∑ f, (starRingEnd ℂ) (blockDiagonal' U f k) * blockDiagonal' U f l
      = if k = l then 1 else 0 := by
  have := congrFun (congrFun (block_unitary U h.unitary).1 k) l
  rw [mul_apply, one_apply] at this
  rw [← this]
  rfl

/-- The union of the block spectra IS the spectrum of the full Hamiltonian, with multiplicities: the
characteristic polynomial of the assembled Hamiltonian is `∏_k (X − E_k)` over all stored
eigenvalues, and its multiset of roots is exactly the multiset of stored eigenvalues (nothing
missing, nothing extra, degenerate levels counted as often as they occur). -/
theorem spectrum_with_multiplicities {Hb : ∀ b, Matrix (m b) (m b) ℂ}
    {U : ∀ b, Matrix (m b) (m b) ℂ} {E : ∀ b, m b → ℝ} (h : BlockEigen (m := m) Hb U E) :
    (blockDiagonal' Hb).charpoly = ∏ k : Σ b, m b, (X - C (E k.1 k.2 : ℂ)) ∧
    (blockDiagonal' Hb).charpoly.roots
      = (Finset.univ : Finset (Σ b, m b)).val.map (fun k => (E k.1 k.2 : ℂ)) :=
  ⟨block_charpoly h, block_spectrum_roots h⟩

/-- The same for the Hamiltonian written in the Fock basis `σ`: if the classification of the Fock
states into blocks is a bijection `e : σ ≃ Σ b, m b` and `H` is block-diagonal w.r.t. it (`H` is the
re-indexed assembled matrix), the characteristic polynomial of `H` is `∏_k (X − E_k)`. -/
theorem fock_spectrum {σ : Type} [Fintype σ] [DecidableEq σ] (e : σ ≃ Σ b, m b)
    (H : Matrix σ σ ℂ)
    {Hb : ∀ b, Matrix (m b) (m b) ℂ} {U : ∀ b, Matrix (m b) (m b) ℂ} {E : ∀ b, m b → ℝ}
    (h : BlockEigen (m := m) Hb U E)
    (hH : H = Matrix.reindex e.symm e.symm (blockDiagonal' Hb)) :
    H.charpoly = ∏ k : Σ b, m b, (X - C (E k.1 k.2 : ℂ)) :=
  fock_charpoly e H h hH

/-- The shortcut the library takes for a block of size one (no call of the eigensolver: eigenvalue
:= the real matrix element, eigenvector := (1)) satisfies the eigen-equation `H·U = U·diag(E)`,
provided the matrix element is real (Hermitian Hamiltonian). -/
theorem one_by_one_block (x : ℂ) (hx : x.im = 0) :
    (Matrix.of fun (_ _ : Unit) => x) * (1 : Matrix Unit Unit ℂ)
      = (1 : Matrix Unit Unit ℂ) * diagonal (fun _ => ((x.re : ℝ) : ℂ)) := by
  have hxr : ((x.re : ℝ) : ℂ) = x := Complex.ext (by simp) (by simp [hx])
  rw [Matrix.mul_one, Matrix.one_mul, hxr]
  ext i j
  simp [diagonal]

/-- A matrix on the full index set is the assembly of its diagonal blocks IF AND ONLY IF all its
matrix elements between different blocks vanish.  (⇒: if `Hfull k l = 0` whenever `k`, `l` lie in
different blocks, `Hfull` equals the block-diagonal matrix of its diagonal blocks; ⇐: a
block-diagonal matrix has no inter-block elements.)  This is the hypothesis under which
block-wise diagonalisation is legitimate; that the classification of the library produces such
blocks is property C07 (`C07.no_hamiltonian_element_between_blocks`). -/
theorem no_interblock_iff_block_diagonal (Hfull : Matrix (Σ b, m b) (Σ b, m b) ℂ) :
    (∀ k l : Σ b, m b, k.1 ≠ l.1 → Hfull k l = 0) ↔
      Hfull = blockDiagonal' (fun b => Matrix.of fun i j => Hfull ⟨b, i⟩ ⟨b, j⟩) := by
  constructor
  · intro h0
    ext ⟨b, i⟩ ⟨b', j⟩
    by_cases hb : b = b'
    · subst hb
      simp
    · rw [blockDiagonal'_apply_ne _ _ _ hb]
      exact h0 _ _ hb
  · intro h ⟨b, i⟩ ⟨b', j⟩ hkl
    rw [h]
    exact blockDiagonal'_apply_ne _ _ _ hkl

/-- Concrete instance: a real 1×1 block `(3)` is "diagonalised" by the shortcut with eigenvalue 3. -/
example :
    (Matrix.of fun (_ _ : Unit) => (3 : ℂ)) * (1 : Matrix Unit Unit ℂ)
      = (1 : Matrix Unit Unit ℂ) * diagonal (fun _ => (((3 : ℂ).re : ℝ) : ℂ)) :=
  one_by_one_block 3 (by simp)

/-! ### The spectrum bookkeeping of `Hamiltonian` follows the blocks

`Model/HamSpectrum.lean` is an executable model of `Hamiltonian::computeGroundEnergy`
(per-block `Eigenvalues.minCoeff()`, then `LEV.minCoeff()`), `Hamiltonian::getEigenValues` (copy of
the block spectra one after the other) and `Hamiltonian::getEigenValue(state)` (block number and inner
position of the state, then the entry of the eigenvalue vector), with explicit errors where the source
has undefined behaviour (`minCoeff()` of an empty vector, reads past the end after `reduce`) or
throws.  `parts` = the eigenvalue vectors of the blocks in block order; `blkOf`, `blocks` = the tables
of `StatesClassification` (`Model/Symm.lean`). -/

section Bookkeeping
open Pomerol.Model Pomerol.Model.HamSpectrum Pomerol.Spec.HamSpectrumSpec

/-- **The ground energy is the minimum over all blocks.**  With at least one block and no empty
block, `computeGroundEnergy` is defined, its result is an eigenvalue of some block, and it is `≤`
every eigenvalue of every block.  Holds for ANY order of the eigenvalues inside the blocks.  (With no
block, or with an empty block, the source calls `minCoeff()` on an empty vector:
`HamSpectrumSpec.ground_energy_no_blocks`, `ground_energy_empty_block`.) -/
theorem ground_energy_is_minimum_over_blocks (parts : List (List ℝ)) (hne : parts ≠ [])
    (hblk : ∀ ev ∈ parts, ev ≠ []) :
    ∃ g, groundEnergy parts = some g ∧ (∃ ev ∈ parts, g ∈ ev) ∧
      ∀ ev ∈ parts, ∀ e ∈ ev, g ≤ e := by
  -- `m ev`: the minimum `minCoeff` finds in the block `ev`
  choose! m hm hmem hle using minCoeff_spec
  obtain ⟨g, hg, hgm, hgle⟩ := minCoeff_spec (parts.map m) (by simpa using hne)
  obtain ⟨ev, hev, rfl⟩ := List.mem_map.mp hgm
  refine ⟨m ev, ?_, ⟨ev, hev, hmem ev (hblk ev hev)⟩, fun ev' hev' e he => ?_⟩
  · unfold groundEnergy computeGroundEnergy
    rw [if_neg (lt_irrefl _), levLoop_map m parts [] fun ev hev => hm ev (hblk ev hev)]
    simp only [List.nil_append]
    rw [if_neg (lt_irrefl _), hg]
    rfl
  · exact (hgle _ (List.mem_map_of_mem hev')).trans (hle ev' (hblk ev' hev') e he)

/-- **`getEigenValues` is the union of the block spectra**: the copy loop produces the concatenation
of the eigenvalue vectors in block order, i.e. as a multiset the sum of the block spectra (every
eigenvalue as often as it occurs); and this is the returned vector when the block sizes add up to
the number of states. -/
theorem eigenvalues_are_union_of_blocks (parts : List (List ℝ)) :
    ((allEigenValues parts : List ℝ) : Multiset ℝ)
        = (parts.map fun ev => ((ev : List ℝ) : Multiset ℝ)).sum ∧
    ∀ nstates, (parts.map List.length).sum = nstates →
      getEigenValues nstates parts = .ok parts.flatten := by
  constructor
  · rw [allEigenValues_eq_flatten]
    induction parts with
    | nil => simp
    | cons ev parts ih =>
      rw [List.flatten_cons, List.map_cons, List.sum_cons, ← ih, Multiset.coe_add]
  · intro nstates h
    unfold getEigenValues
    simp only [allEigenValues_eq_flatten, List.length_flatten, h, lt_irrefl, if_false]

/-- **The eigenvalue of a state is looked up in its block at its position.**  If the tables say
"state `s` is in block `b`" and "its inner index is `i`" (`Symm.innerState`, the model of
`getInnerState`), and part `b` has an `i`-th eigenvalue `e`, then `getEigenValue(s) = e`. -/
theorem eigenvalue_lookup_by_state (blkOf : List ℕ) (blocks : List (List ℕ))
    (parts : List (List ℝ)) (state b i : ℕ) (ev : List ℝ) (e : ℝ)
    (hb : blkOf[state]? = some b) (hi : Symm.innerState blkOf blocks state = some i)
    (hp : parts[b]? = some ev) (he : ev[i]? = some e) :
    eigenValueOfState blkOf blocks parts state = .ok e := by
  rw [eigenValueOfState_eq hb hi hp, he]

/-- Conversely the address (block `b`, position `i`) reaches the `i`-th eigenvalue of block `b`: with
tables consistent with the lists of states (C07) and no state listed twice, the state listed at
position `i` of block `b` has inner index `i` and `getEigenValue` returns entry `i` of part `b`. -/
theorem eigenvalue_lookup_by_address (blkOf : List ℕ) (blocks : List (List ℕ))
    (parts : List (List ℝ)) (hcls : ∀ b s, s ∈ blocks.getD b [] → blkOf[s]? = some b)
    (b : Fin blocks.length) (hnd : (blocks.get b).Nodup) (i : ℕ) (hi : i < (blocks.get b).length)
    (ev : List ℝ) (hp : parts[(b : ℕ)]? = some ev) (hlen : i < ev.length) :
    Symm.innerState blkOf blocks ((blocks.get b)[i]) = some i ∧
    eigenValueOfState blkOf blocks parts ((blocks.get b)[i]) = .ok ev[i] := by
  obtain ⟨hblk, hinner⟩ := innerState_of_block hcls hnd hi
  exact ⟨hinner, eigenvalue_lookup_by_state blkOf blocks parts _ b i ev _ hblk hinner hp
    (List.getElem?_eq_getElem hlen)⟩

/-- Concrete instance: three blocks with spectra `(2,5)`, `(−1,3)`, `(0)`: the ground energy is `−1`. -/
example : groundEnergy [[(2 : ℝ), 5], [-1, 3], [0]] = some (-1) := by
  norm_num [groundEnergy, computeGroundEnergy, levLoop, getMinimumEigenvalue, minCoeff,
    Except.toOption]

/-- Concrete instance (2 modes, blocks `{00}`, `{01,10}`, `{11}`): the state `10` (bit mask 2) is in
block 1 at position 1, so its eigenvalue is the second entry of the spectrum `(−1, 1)` of block 1. -/
example : eigenValueOfState [0, 1, 1, 2] [[0], [1, 2], [3]] [[(0 : ℝ)], [-1, 1], [2]] 2 = .ok 1 :=
  eigenvalue_lookup_by_state _ _ _ 2 1 1 [-1, 1] 1 rfl (by decide) rfl rfl

/-- The same runs evaluated on exact integers; and the undefined cases: no block, an empty block, a
state outside the table. -/
example : groundEnergy [[(2 : Int), 5], [-1, 3], [0]] = some (-1) ∧
    groundEnergy ([] : List (List Int)) = none ∧
    groundEnergy [[(2 : Int), 5], []] = none ∧
    getEigenValues 4 [[(0 : Int)], [-1, 1], [2]] = .ok [0, -1, 1, 2] ∧
    getEigenValues 4 [[(0 : Int)], [-1], [2]] = .error .uninitialised ∧
    eigenValueOfState [0, 1, 1, 2] [[0], [1, 2], [3]] [[(0 : Int)], [-1, 1], [2]] 2 = .ok 1 ∧
    eigenValueOfState [0, 1, 1, 2] [[0], [1, 2], [3]] [[(0 : Int)], [-1], [2]] 2
      = .error .outOfRange ∧
    eigenValueOfState [0, 1, 1, 2] [[0], [1, 2], [3]] [[(0 : Int)], [-1, 1], [2]] 7
      = .error .wrongState := by
  decide

end Bookkeeping

end Pomerol.Properties.C03
