/-
  Property C12: non-interacting limit.  For a Hamiltonian that is quadratic in the mode operators
  the single-particle Green's function computed from the Lehmann representation is the free
  propagator `(z − h)⁻¹`, and the irreducible vertex is what is left of the two-particle Green's
  function after the disconnected part `χ⁰` has been removed.

  Setting (`Spec/Wick.lean`, `Spec/GFProps.lean`): `d : EigenData ι` are the eigenvalues and Gibbs
  weights the library has computed (`d.H` is the diagonal matrix of eigenvalues); `c j` is the matrix
  of the annihilation operator of mode `j` in that eigenbasis; `ModeCAR c` says that the `c j`
  satisfy the canonical anticommutation relations (a hypothesis: `C05.car` proves them for the
  Jordan–Wigner matrices in the Fock basis and `C10.rotation_preserves_car` carries one such relation to
  the eigenbasis, but no lemma derives `ModeCAR` for the library's matrices from them);
  `h` is the single-particle matrix (not assumed Hermitian); `d.lehmannG A B z` is the Lehmann sum
  the library evaluates (C01, `Bridge.gf_sum`).  Degenerate levels are included; `z` is any complex number that is
  not a pole.  The vertex formula is the one extracted from the source (`Gen.Vertex.vertexValue`).
-/
import PomerolModel.Spec.Wick
import PomerolModel.Spec.WickChi4
import PomerolModel.Spec.Bridge
import PomerolModel.Properties.C15

namespace Pomerol.Properties.C12
open Matrix Complex Pomerol Pomerol.Spec

variable {ι : Type} [Fintype ι] [DecidableEq ι] {J : Type} [Fintype J] [DecidableEq J]

/-- `[c_i, Σ_kl h_kl c†_k c_l] = Σ_l h_il c_l`: pure algebra from the anticommutation relations. -/
theorem commutator_with_quadratic (c : J → Matrix ι ι ℂ) (hc : ModeCAR c) (h : Matrix J J ℂ)
    (i : J) :
    c i * (∑ k, ∑ l, h k l • ((c k)ᴴ * c l)) - (∑ k, ∑ l, h k l • ((c k)ᴴ * c l)) * c i
      = ∑ l, h i l • c l :=
  comm_quadratic c hc h i

/-- Equation of motion in the eigenbasis of a quadratic Hamiltonian:
`(E_m − E_n) (c_i)_nm = Σ_l h_il (c_l)_nm`. -/
theorem equation_of_motion (d : EigenData ι) (c : J → Matrix ι ι ℂ) (hc : ModeCAR c)
    (h : Matrix J J ℂ) (hH : d.H = ∑ k, ∑ l, h k l • ((c k)ᴴ * c l)) (i : J) (n m : ι) :
    ((d.E m - d.E n : ℝ) : ℂ) * c i n m = ∑ l, h i l * c l n m :=
  eom_eigenbasis d c hc h hH i n m

/-- free propagator: for a quadratic Hamiltonian the matrix of the Lehmann Green's functions
`G_lj(z) = ⟨⟨c_l ; c†_j⟩⟩_z` satisfies `(z − h) G(z) = 1`. -/
theorem free_propagator [Nonempty ι] (d : EigenData ι) (c : J → Matrix ι ι ℂ) (hc : ModeCAR c)
    (h : Matrix J J ℂ) (hH : d.H = ∑ k, ∑ l, h k l • ((c k)ᴴ * c l)) (z : ℂ)
    (hz : ∀ n m, z ≠ ((d.E m - d.E n : ℝ) : ℂ)) :
    (z • (1 : Matrix J J ℂ) - h) * (Matrix.of fun l j => d.lehmannG (c l) (c j)ᴴ z) = 1 :=
  Pomerol.Spec.free_propagator d c hc h hH z hz

/-- ... that is, `G(z) = (z − h)⁻¹`. -/
theorem free_propagator_is_inverse [Nonempty ι] (d : EigenData ι) (c : J → Matrix ι ι ℂ)
    (hc : ModeCAR c) (h : Matrix J J ℂ) (hH : d.H = ∑ k, ∑ l, h k l • ((c k)ᴴ * c l)) (z : ℂ)
    (hz : ∀ n m, z ≠ ((d.E m - d.E n : ℝ) : ℂ)) :
    (Matrix.of fun l j => d.lehmannG (c l) (c j)ᴴ z) = (z • (1 : Matrix J J ℂ) - h)⁻¹ :=
  (Matrix.inv_eq_right_inv (Pomerol.Spec.free_propagator d c hc h hH z hz)).symm

/-- The vertex the library returns is `χ − χ⁰` with the documented disconnected part
`χ⁰ = β (δ_{n2,n3} G14(n1) G23(n2) − δ_{n1,n3} G13(n1) G24(n2))`, for every two-particle function
`χ`, every quadruple of Green's functions, every β and every frequency triple.  Consequently the
vertex vanishes exactly when `χ = χ⁰` (Wick's theorem for a quadratic Hamiltonian). -/
theorem vertex_is_chi_minus_chi0 {R K : Type} [Add R] [Sub R] [Mul R] [Div R] [Neg R] [Zero R]
    [One R] [NatCast R] [LT R] [DecidableLT R] [HasExp R] [CommRing K] [Div K] [HasExp K]
    [CplxOver R K]
    (chi : Int → Int → Int → K) (G13 G24 G14 G23 : Int → K) (β : R) (n1 n2 n3 : Int) :
    Pomerol.Gen.Vertex.vertexValue chi G13 G24 G14 G23 β n1 n2 n3 =
      chi n1 n2 n3 - C15.chi0 G13 G24 G14 G23 (CplxOver.ofReal β) n1 n2 n3 :=
  C15.vertex_formula chi G13 G24 G14 G23 β n1 n2 n3

/-- ... hence it is zero if and only if the two-particle function equals its disconnected part. -/
theorem vertex_vanishes_iff {R K : Type} [Add R] [Sub R] [Mul R] [Div R] [Neg R] [Zero R]
    [One R] [NatCast R] [LT R] [DecidableLT R] [HasExp R] [CommRing K] [Div K] [HasExp K]
    [CplxOver R K]
    (chi : Int → Int → Int → K) (G13 G24 G14 G23 : Int → K) (β : R) (n1 n2 n3 : Int) :
    Pomerol.Gen.Vertex.vertexValue chi G13 G24 G14 G23 β n1 n2 n3 = 0 ↔
      chi n1 n2 n3 = C15.chi0 G13 G24 G14 G23 (CplxOver.ofReal β) n1 n2 n3 := by
  rw [vertex_is_chi_minus_chi0, sub_eq_zero]

/-! ### Second half: Wick factorisation of the two-particle Green's function

Proved in `Spec/WickChi4.lean` by the equation of motion in frequency space, entirely at the level
of the Lehmann sums the library evaluates (no time integrals):
`Σ_{i'} (z₀ − h)_{ii'} χ_{i'jkl}(z₀,z₁,z₂) = β([z₁+z₂=0] δ_il G_jk(z₁) − [z₀+z₂=0] δ_ik G_jl(z₁))`
(`chi4_equation_of_motion`), multiplied by `G(z₀) = (z₀ − h)⁻¹`. -/

/-- Equation of motion of the two-particle Green's function of a quadratic Hamiltonian
`H = Σ_kl h_kl c†_k c_l`, in frequency space:
`Σ_{i'} (z₀ δ_{ii'} − h_{ii'}) χ_{i'jkl}(z₀,z₁,z₂) = β([z₁+z₂=0] δ_il G_jk(z₁) − [z₀+z₂=0] δ_ik G_jl(z₁))`
for all `z` with `e^{βz} = −1` (e.g. `z₀ = iω₁`, `z₁ = iω₂`, `z₂ = −iω₃`), degenerate levels and all
resonances included. -/
theorem two_particle_equation_of_motion (d : EigenData ι) (c : J → Matrix ι ι ℂ) (hc : ModeCAR c)
    (h : Matrix J J ℂ) (hH : d.H = ∑ k, ∑ l, h k l • ((c k)ᴴ * c l)) (i j k l : J)
    (z : Fin 3 → ℂ) (hz : ∀ m, Complex.exp ((d.β:ℂ) * z m) = -1) :
    ∑ i', (z 0 • (1 : Matrix J J ℂ) - h) i i' *
        d.chiLehmann ![c i', c j, (c k)ᴴ] (c l)ᴴ z
      = (d.β : ℂ) *
        ((if z 1 + z 2 = 0 then (if i = l then d.lehmannG (c j) (c k)ᴴ (z 1) else 0) else 0)
          - (if z 0 + z 2 = 0 then (if i = k then d.lehmannG (c j) (c l)ᴴ (z 1) else 0) else 0)) :=
  chi4_equation_of_motion ⟨hc, hH⟩ i j k l z hz

/-- Wick factorisation (C12, second half).  For every Hamiltonian quadratic in the fermion
operators, `H = Σ_kl h_kl c†_k c_l` (`h` arbitrary, levels possibly degenerate), the two-particle
Green's function the library evaluates,
`χ_{ijkl}(ω₁,ω₂;ω₃) = ∫∫∫ ⟨T c_i(τ₁) c_j(τ₂) c†_k(τ₃) c†_l(0)⟩ e^{iω₁τ₁+iω₂τ₂−iω₃τ₃}`,
is the antisymmetrised product of single-particle Green's functions:
`χ_{ijkl}(ω₁,ω₂;ω₃) = β ( δ_{ω₂,ω₃} G_il(iω₁) G_jk(iω₂) − δ_{ω₁,ω₃} G_ik(iω₁) G_jl(iω₂) )`
for every index quadruple and every triple of fermionic Matsubara numbers (coinciding frequencies
included).  This is exactly the disconnected part `χ⁰` of `C15.chi0` with
`G13 = G_ik`, `G24 = G_jl`, `G14 = G_il`, `G23 = G_jk`. -/
theorem two_particle_function_factorises (d : EigenData ι) (c : J → Matrix ι ι ℂ)
    (hc : ModeCAR c) (h : Matrix J J ℂ) (hH : d.H = ∑ k, ∑ l, h k l • ((c k)ᴴ * c l))
    (i j k l : J) (k1 k2 k3 : ℤ) :
    d.chiLehmann ![c i, c j, (c k)ᴴ] (c l)ᴴ
        ![I * (d.ω k1 : ℂ), I * (d.ω k2 : ℂ), -(I * (d.ω k3 : ℂ))]
      = C15.chi0
          (fun a => d.lehmannG (c i) (c k)ᴴ (I * (d.ω a : ℂ)))
          (fun a => d.lehmannG (c j) (c l)ᴴ (I * (d.ω a : ℂ)))
          (fun a => d.lehmannG (c i) (c l)ᴴ (I * (d.ω a : ℂ)))
          (fun a => d.lehmannG (c j) (c k)ᴴ (I * (d.ω a : ℂ)))
          (d.β : ℂ) k1 k2 k3 := by
  rw [wick_chi4 ⟨hc, hH⟩]
  rfl

/-- The same at the level of the definitions: the signed sum of the six time-ordered simplex
integrals of the four-operator correlator equals `β(δ G_il G_jk − δ G_ik G_jl)` with
`G_ab(iω_n) = −∫₀^β ⟨c_a(τ) c†_b(0)⟩ e^{iω_nτ} dτ`. -/
theorem two_particle_function_factorises_def (d : EigenData ι) (c : J → Matrix ι ι ℂ)
    (hc : ModeCAR c) (h : Matrix J J ℂ) (hH : d.H = ∑ k, ∑ l, h k l • ((c k)ᴴ * c l))
    (i j k l : J) (k1 k2 k3 : ℤ) :
    d.chiDef ![c i, c j, (c k)ᴴ] (c l)ᴴ
        ![I * (d.ω k1 : ℂ), I * (d.ω k2 : ℂ), -(I * (d.ω k3 : ℂ))]
      = (d.β : ℂ) *
        ((if k2 = k3 then d.Gdef (c i) (c l)ᴴ k1 * d.Gdef (c j) (c k)ᴴ k2 else 0)
          - (if k1 = k3 then d.Gdef (c i) (c k)ᴴ k1 * d.Gdef (c j) (c l)ᴴ k2 else 0)) :=
  wick_chiDef ⟨hc, hH⟩ i j k l k1 k2 k3

/-- the irreducible vertex vanishes (C12, second half).  `Vertex4::value` as extracted from the
source, evaluated on the two-particle Green's function and the four single-particle Green's
functions (`G13 = G_ik`, `G24 = G_jl`, `G14 = G_il`, `G23 = G_jk`) the library computes for a
quadratic Hamiltonian, is exactly zero for every index quadruple `(i,j,k,l)` and every triple of
Matsubara numbers `(n1,n2,n3)`, including coinciding frequencies and degenerate levels. -/
theorem vertex_vanishes_for_quadratic_hamiltonians (d : EigenData ι) (c : J → Matrix ι ι ℂ)
    (hc : ModeCAR c) (h : Matrix J J ℂ) (hH : d.H = ∑ k, ∑ l, h k l • ((c k)ᴴ * c l))
    (i j k l : J) (n1 n2 n3 : ℤ) :
    Pomerol.Gen.Vertex.vertexValue (R := ℝ) (K := ℂ)
      (fun a b e => d.chiLehmann ![c i, c j, (c k)ᴴ] (c l)ᴴ
        ![I * (d.ω a : ℂ), I * (d.ω b : ℂ), -(I * (d.ω e : ℂ))])
      (fun a => d.lehmannG (c i) (c k)ᴴ (I * (d.ω a : ℂ)))
      (fun a => d.lehmannG (c j) (c l)ᴴ (I * (d.ω a : ℂ)))
      (fun a => d.lehmannG (c i) (c l)ᴴ (I * (d.ω a : ℂ)))
      (fun a => d.lehmannG (c j) (c k)ᴴ (I * (d.ω a : ℂ)))
      d.β n1 n2 n3 = 0 := by
  rw [vertex_vanishes_iff]
  exact two_particle_function_factorises d c hc h hH i j k l n1 n2 n3

/-! ### Sanity example: one spinless level

`H = 2 c†c` at `β = 1` on the Fock space `{|0⟩, |1⟩}` (energies `0, 2`), `c = |0⟩⟨1|`, `h = (2)`.
All hypotheses of the theorems above hold, `G(iω) = 1/(iω − 2)`, and
`χ_{0000}(ω₁,ω₂;ω₃) = (δ_{ω₂ω₃} − δ_{ω₁ω₃}) / ((iω₁ − 2)(iω₂ − 2))`. -/

noncomputable def exD : EigenData (Fin 2) := ⟨1, one_pos, ![0, 2]⟩
def exC : Unit → Matrix (Fin 2) (Fin 2) ℂ := fun _ => !![0, 1; 0, 0]
def exH : Matrix Unit Unit ℂ := fun _ _ => 2

theorem exC_adj (i : Unit) : (exC i)ᴴ = !![0, 0; 1, 0] := by
  simp [exC, ← Matrix.ext_iff, Fin.forall_fin_two]

theorem exC_car : ModeCAR exC := by
  constructor <;> intro i j
  · rw [exC_adj]
    simp [exC, Matrix.one_fin_two]
  · -- `c² = 0`
    have hcc : (!![0, 1; 0, 0] : Matrix (Fin 2) (Fin 2) ℂ) * !![0, 1; 0, 0] = 0 := by
      rw [Matrix.mul_fin_two, ← Matrix.ext_iff]
      simp [Fin.forall_fin_two]
    simp only [exC, hcc, add_zero]

theorem exD_H : exD.H = ∑ k, ∑ l, exH k l • ((exC k)ᴴ * exC l) := by
  simp only [exC_adj]
  simp [EigenData.H, exD, exC, exH, ← Matrix.ext_iff, Fin.forall_fin_two]

theorem exG (k : ℤ) :
    exD.lehmannG (exC ()) (exC ())ᴴ (I * (exD.ω k : ℂ)) = 1 / (I * (exD.ω k : ℂ) - 2) := by
  have hexp := exp_beta_I_omega exD k
  have hpole : ∀ n m, I * (exD.ω k : ℂ) ≠ ((exD.E m - exD.E n : ℝ) : ℂ) := fun n m =>
    sub_ne_zero.mp (sub_ofReal_ne_zero_of_exp_eq_neg_one hexp _)
  have h := Pomerol.Spec.free_propagator exD exC exC_car exH exD_H _ hpole
  have h00 := congrFun (congrFun h ()) ()
  rw [Matrix.mul_apply] at h00
  simp only [Finset.univ_unique, Finset.sum_singleton, Matrix.sub_apply, Matrix.smul_apply,
    Matrix.one_apply_eq, smul_eq_mul, mul_one, Matrix.of_apply, exH] at h00
  have hne : I * (exD.ω k : ℂ) - 2 ≠ 0 := by
    have := sub_ofReal_ne_zero_of_exp_eq_neg_one hexp 2
    simpa using this
  rw [eq_div_iff hne]
  linear_combination h00

/-- the example: hypotheses satisfied (non-vacuity) and the explicit value of χ -/
example (k1 k2 k3 : ℤ) :
    exD.chiLehmann ![exC (), exC (), (exC ())ᴴ] (exC ())ᴴ
        ![I * (exD.ω k1 : ℂ), I * (exD.ω k2 : ℂ), -(I * (exD.ω k3 : ℂ))]
      = ((if k2 = k3 then 1 else 0) - (if k1 = k3 then 1 else 0))
          / ((I * (exD.ω k1 : ℂ) - 2) * (I * (exD.ω k2 : ℂ) - 2)) := by
  rw [wick_chi4 ⟨exC_car, exD_H⟩, exG, exG]
  have hβ : (exD.β : ℂ) = 1 := by simp [exD]
  rw [hβ]
  generalize I * (exD.ω k1 : ℂ) - 2 = a
  generalize I * (exD.ω k2 : ℂ) - 2 = b
  by_cases h23 : k2 = k3 <;> by_cases h13 : k1 = k3 <;>
    simp only [h23, h13, if_true, if_false] <;> ring

/-- ... and its vertex is zero -/
example (n1 n2 n3 : ℤ) :
    Pomerol.Gen.Vertex.vertexValue (R := ℝ) (K := ℂ)
      (fun a b e => exD.chiLehmann ![exC (), exC (), (exC ())ᴴ] (exC ())ᴴ
        ![I * (exD.ω a : ℂ), I * (exD.ω b : ℂ), -(I * (exD.ω e : ℂ))])
      (fun a => exD.lehmannG (exC ()) (exC ())ᴴ (I * (exD.ω a : ℂ)))
      (fun a => exD.lehmannG (exC ()) (exC ())ᴴ (I * (exD.ω a : ℂ)))
      (fun a => exD.lehmannG (exC ()) (exC ())ᴴ (I * (exD.ω a : ℂ)))
      (fun a => exD.lehmannG (exC ()) (exC ())ᴴ (I * (exD.ω a : ℂ)))
      exD.β n1 n2 n3 = 0 :=
  vertex_vanishes_for_quadratic_hamiltonians exD exC exC_car exH exD_H () () () () n1 n2 n3

end Pomerol.Properties.C12

/-! In `Pomerol.Spec`: `vertex_vanishes` is `C12.vertex_vanishes_for_quadratic_hamiltonians`, and
`vertex_vanishes_def` is the same statement for `chiDef` and `Gdef` (the imaginary-time integrals), from
`wick_chiDef`.  Both need the vertex formula `χ − χ⁰` of `C15`, which `Spec/WickChi4.lean` does not
import. -/

namespace Pomerol.Spec
open Matrix Complex

variable {ι : Type} [Fintype ι] [DecidableEq ι] {J : Type} [Fintype J] [DecidableEq J]

/-- the vertex vanishes: the formula of `Vertex4::value` (extracted from the source), fed with the
two-particle and single-particle Green's functions the library evaluates for a quadratic
Hamiltonian (`G13 = G_ik`, `G24 = G_jl`, `G14 = G_il`, `G23 = G_jk`), gives exactly 0 at every
triple of Matsubara numbers. -/
theorem vertex_vanishes (d : EigenData ι) (c : J → Matrix ι ι ℂ) (hc : ModeCAR c)
    (h : Matrix J J ℂ) (hH : d.H = ∑ k, ∑ l, h k l • ((c k)ᴴ * c l)) (i j k l : J)
    (n1 n2 n3 : ℤ) :
    Pomerol.Gen.Vertex.vertexValue (R := ℝ) (K := ℂ)
      (fun a b e => d.chiLehmann ![c i, c j, (c k)ᴴ] (c l)ᴴ
        ![I * (d.ω a : ℂ), I * (d.ω b : ℂ), -(I * (d.ω e : ℂ))])
      (fun a => d.lehmannG (c i) (c k)ᴴ (I * (d.ω a : ℂ)))
      (fun a => d.lehmannG (c j) (c l)ᴴ (I * (d.ω a : ℂ)))
      (fun a => d.lehmannG (c i) (c l)ᴴ (I * (d.ω a : ℂ)))
      (fun a => d.lehmannG (c j) (c k)ᴴ (I * (d.ω a : ℂ)))
      d.β n1 n2 n3 = 0 :=
  Pomerol.Properties.C12.vertex_vanishes_for_quadratic_hamiltonians d c hc h hH i j k l n1 n2 n3

/-- the same for the quantities defined by the imaginary-time integrals -/
theorem vertex_vanishes_def (d : EigenData ι) (c : J → Matrix ι ι ℂ) (hc : ModeCAR c)
    (h : Matrix J J ℂ) (hH : d.H = ∑ k, ∑ l, h k l • ((c k)ᴴ * c l)) (i j k l : J)
    (n1 n2 n3 : ℤ) :
    Pomerol.Gen.Vertex.vertexValue (R := ℝ) (K := ℂ)
      (fun a b e => d.chiDef ![c i, c j, (c k)ᴴ] (c l)ᴴ
        ![I * (d.ω a : ℂ), I * (d.ω b : ℂ), -(I * (d.ω e : ℂ))])
      (fun a => d.Gdef (c i) (c k)ᴴ a) (fun a => d.Gdef (c j) (c l)ᴴ a)
      (fun a => d.Gdef (c i) (c l)ᴴ a) (fun a => d.Gdef (c j) (c k)ᴴ a)
      d.β n1 n2 n3 = 0 :=
  (Pomerol.Properties.C12.vertex_vanishes_iff ..).mpr (wick_chiDef ⟨hc, hH⟩ i j k l n1 n2 n3)

end Pomerol.Spec
