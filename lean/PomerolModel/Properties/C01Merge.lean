/-
  Property C01, tolerance-aware part: the term container merges terms whose poles differ by less than
  a tolerance onto the pole of the term stored first.  This changes the evaluated sum slightly; here
  the change is bounded.  Approximate versions of `addTerm_spec`, `addAll_spec`, `dropped_terms_value`
  of `Properties/C01.lean`.
-/
import PomerolModel.Properties.C01
import Mathlib.Analysis.Normed.Group.Basic
import Mathlib.Analysis.Complex.Norm

namespace Pomerol.Properties.C01Merge
open Complex Pomerol Pomerol.Spec Pomerol.Model.TermList Pomerol.Properties.C01

section Container
variable {K R M : Type} [Add K] [SeminormedAddCommGroup M]

/-- approximate invariant of `add_term`: merging `t` onto a stored equivalent `e` may change the
additive quantity `f` by at most `g t` -/
theorem addTerm_spec_approx {less : R → R → Bool} (negl : K → Nat → Bool)
    (hirr : ∀ p, less p p = false) (f : Term K R → M) (g : Term K R → ℝ)
    (hf : ∀ e t : Term K R, Eqv less e t → ‖f ⟨e.res + t.res, e.pole⟩ - (f e + f t)‖ ≤ g t)
    {data : List (Term K R)} (t : Term K R) (hinv : Inv less data) (hg : 0 ≤ g t) :
    Inv less (addTerm less negl data t).1 ∧
    ‖((addTerm less negl data t).1.map f).sum + ((addTerm less negl data t).2.toList.map f).sum
        - ((data.map f).sum + f t)‖ ≤ g t := by
  obtain ⟨h1, -, h3 | ⟨e, rest, he, hd, h3⟩⟩ := addTerm_effect negl hirr f t hinv
  · refine ⟨h1, ?_⟩
    rw [h3, sub_self, norm_zero]
    exact hg
  · refine ⟨h1, ?_⟩
    rw [h3, hd, add_right_comm (f e) rest (f t), add_sub_add_right_eq_sub]
    exact hf e t he

/-- ... and of adding a sequence of terms: errors add up to at most `Σ g t` -/
theorem addAll_spec_approx {less : R → R → Bool} (negl : K → Nat → Bool)
    (hirr : ∀ p, less p p = false) (f : Term K R → M) (g : Term K R → ℝ) (hg : ∀ t, 0 ≤ g t)
    (hf : ∀ e t : Term K R, Eqv less e t → ‖f ⟨e.res + t.res, e.pole⟩ - (f e + f t)‖ ≤ g t)
    (ts : List (Term K R)) : ∀ (data dropped : List (Term K R)), Inv less data →
    Inv less (addAll less negl data dropped ts).1 ∧
    ‖((addAll less negl data dropped ts).1.map f).sum
        + ((addAll less negl data dropped ts).2.map f).sum
        - ((data.map f).sum + (dropped.map f).sum + (ts.map f).sum)‖ ≤ (ts.map g).sum := by
  induction ts with
  | nil =>
    intro data dropped hinv
    refine ⟨hinv, ?_⟩
    rw [addAll, List.map_nil, List.sum_nil, add_zero, sub_self, norm_zero, List.map_nil, List.sum_nil]
  | cons t ts ih =>
    intro data dropped hinv
    obtain ⟨s1, s2⟩ := addTerm_spec_approx negl hirr f g hf t hinv (hg t)
    obtain ⟨j1, j2⟩ := ih _ (dropped ++ (addTerm less negl data t).2.toList) s1
    rw [addAll_cons]
    refine ⟨j1, ?_⟩
    rw [List.map_append, List.sum_append] at j2
    rw [List.map_cons, List.sum_cons, List.map_cons, List.sum_cons]
    -- the error of the first step plus the error of the rest
    refine (le_of_eq (congrArg _ ?_)).trans ((norm_add_le _ _).trans (add_le_add s2 j2))
    abel

end Container

/-- merging onto the first pole: value error of ONE merge -/
theorem merge_error_one (r : ℂ) (p q : ℝ) (z : ℂ) (δ : ℝ) (hδ : 0 < δ)
    (hp : δ ≤ ‖z - (p:ℂ)‖) (hq : δ ≤ ‖z - (q:ℂ)‖) :
    ‖r / (z - (p:ℂ)) - r / (z - (q:ℂ))‖ ≤ ‖r‖ * |p - q| / δ ^ 2 := by
  have hp0 : 0 < ‖z - (p:ℂ)‖ := lt_of_lt_of_le hδ hp
  have hq0 : 0 < ‖z - (q:ℂ)‖ := lt_of_lt_of_le hδ hq
  have hpn : z - (p:ℂ) ≠ 0 := norm_pos_iff.mp hp0
  have hqn : z - (q:ℂ) ≠ 0 := norm_pos_iff.mp hq0
  have heq : r / (z - (p:ℂ)) - r / (z - (q:ℂ))
      = r * (((p - q : ℝ) : ℂ)) / ((z - (p:ℂ)) * (z - (q:ℂ))) := by
    rw [div_sub_div _ _ hpn hqn]
    congr 1
    push_cast
    ring
  rw [heq, norm_div, norm_mul, norm_mul, Complex.norm_real, Real.norm_eq_abs]
  have hden : δ ^ 2 ≤ ‖z - (p:ℂ)‖ * ‖z - (q:ℂ)‖ := by
    rw [pow_two]
    exact mul_le_mul hp hq hδ.le hp0.le
  exact div_le_div_of_nonneg_left (mul_nonneg (norm_nonneg _) (abs_nonneg _)) (by positivity) hden

/-- THE TOLERANCE-AWARE VERSION OF `dropped_terms_value` for the EXTRACTED comparison
`Gen.GF.termLess p q tol` (`q - p ≥ tol`), any `tol > 0` and ANY negligibility test, at every complex
`z` that keeps distance `≥ δ > 0` from the real axis. -/
theorem merged_value_error (tol : ℝ) (htol : 0 < tol) (negl : ℂ → ℕ → Bool) (ts : List (Term ℂ ℝ))
    (z : ℂ) (δ : ℝ) (hδ : 0 < δ) (hz : ∀ p : ℝ, δ ≤ ‖z - (p:ℂ)‖) :
    let less : ℝ → ℝ → Bool := fun p q => Gen.GF.termLess p q tol
    ‖((kept less negl ts).map fun t => t.res / (z - (t.pole : ℂ))).sum
      + ((dropped less negl ts).map fun t => t.res / (z - (t.pole : ℂ))).sum
      - (ts.map fun t => t.res / (z - (t.pole : ℂ))).sum‖
      ≤ tol / δ ^ 2 * (ts.map fun t => ‖t.res‖).sum := by
  intro less
  obtain ⟨-, h2⟩ := addAll_spec_approx negl (termLess_irrefl tol htol)
    (fun t : Term ℂ ℝ => t.res / (z - (t.pole : ℂ))) (fun t : Term ℂ ℝ => tol / δ ^ 2 * ‖t.res‖)
    (fun t => by positivity)
    (fun e t h => by
      dsimp only
      -- merging moves the residue of `t` from its own pole to the pole stored first
      rw [add_div, add_sub_add_left_eq_sub]
      refine (merge_error_one t.res e.pole t.pole z δ hδ (hz _) (hz _)).trans ?_
      rw [div_mul_eq_mul_div, mul_comm tol]
      exact div_le_div_of_nonneg_right
        (mul_le_mul_of_nonneg_left (eqv_termLess h).le (norm_nonneg _)) (by positivity))
    ts [] [] List.Pairwise.nil
  rw [← List.sum_map_mul_left]
  rw [nil_sums] at h2
  exact h2

/-- at a fermionic Matsubara frequency `z = i·ω` with `ω ≠ 0`: `δ = |ω|` works -/
theorem merged_value_error_matsubara (tol : ℝ) (htol : 0 < tol) (negl : ℂ → ℕ → Bool)
    (ts : List (Term ℂ ℝ)) (ω : ℝ) (hω : ω ≠ 0) :
    let less : ℝ → ℝ → Bool := fun p q => Gen.GF.termLess p q tol
    ‖((kept less negl ts).map fun t => t.res / (Complex.I * ω - (t.pole : ℂ))).sum
      + ((dropped less negl ts).map fun t => t.res / (Complex.I * ω - (t.pole : ℂ))).sum
      - (ts.map fun t => t.res / (Complex.I * ω - (t.pole : ℂ))).sum‖
      ≤ tol / ω ^ 2 * (ts.map fun t => ‖t.res‖).sum := by
  have h := merged_value_error tol htol negl ts (Complex.I * (ω : ℂ)) |ω| (abs_pos.mpr hω)
    (abs_le_norm_I_mul_sub ω)
  simpa only [sq_abs] using h

/-- A merge really happens (the bound is not about an empty situation): for every `tol > 0` two terms
with poles `0` and `tol/2` are merged into ONE term at the pole `0` stored first, with the residues
added; nothing is dropped.  The evaluated sum then changes from `1/z + 2/(z - tol/2)` to `3/z`. -/
example (tol : ℝ) (htol : 0 < tol) :
    (kept (fun p q => Gen.GF.termLess p q tol) (fun _ _ => false)
      [⟨1, 0⟩, ⟨2, tol / 2⟩]).map (fun t => (t.res, t.pole)) = [(1 + 2, 0)] := by
  have h3 : -(tol / 2) < tol := lt_trans (neg_neg_of_pos (half_pos htol)) htol
  simp [kept, addAll, addTerm, findEquiv, insertSorted, eraseEquiv, Gen.GF.termLess, h3, htol]

/-- the hypothesis `hz` of `merged_value_error` is satisfiable: `z = i`, `δ = 1` -/
example : ∀ p : ℝ, (1:ℝ) ≤ ‖Complex.I - (p:ℂ)‖ := fun p => by
  simpa using abs_le_norm_I_mul_sub 1 p

end Pomerol.Properties.C01Merge
