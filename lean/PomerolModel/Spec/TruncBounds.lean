/-
  Block truncation (C19): error bounds for the Green's function, thermal averages, the dynamical
  susceptibility χ_AB(iΩ_k) and the two-particle Green's function, and the stripe rule as an identity
  of finite sums.

  Notion of "discarded" used throughout: a set of eigenstates (`D : Finset ι`), or directly a set `S`
  of index tuples, all of whose Gibbs weights are `≤ eps`.  (The library discards whole blocks; a
  block is discarded iff all its weights are `≤ eps`, so the set of states of the discarded blocks is
  such a `D`.  Closedness of `D` under "same block" is not needed for any bound.)

  "Stripe": the library organises every Lehmann sum by tuples of blocks (a pair of blocks for G and
  χ_AB, a quadruple for the two-particle function) and evaluates one part per tuple; the stripe of a
  tuple of blocks is the set of index tuples whose states lie in these blocks.  After truncation a
  stripe is skipped when all its blocks are discarded, so the index tuples left out are exactly
  `D ×ˢ D` resp. `D ×ˢ D ×ˢ D ×ˢ D`: this is what the `if n ∉ D ∨ m ∉ D` of the `trunc…` sums says.

  Every bound has the same two steps: a bound for one term (`gTerm_bound`, `suscTerm_bound`,
  `suscTerm_bound_beta`, `multiTerm_norm_le`) and the summation `norm_sum_le_sum_mul`.

  Two scalar facts feed the term bounds.  A row of an operator obeying the CAR has norm `≤ 1`
  (`row_normSq_le_one`), which turns the sum of matrix-element products into `dim`
  (`absWeight_le_card`).  Two weights in Boltzmann ratio differ by at most `β·max·|ΔE|`
  (`ratio_diff_le`), so a difference quotient of weights `≤ eps` is at most `β·eps` however small its
  denominator: this gives the static χ_AB bound, and at purely imaginary frequencies a two-particle bound
  `4·eps/δ³ + 2·β·eps/δ²` in all resonance classes (`multiTerm_bound_imag`); at Matsubara frequencies
  `δ = π/β` (`abs_omega_ge`), which is the `(4 + 2π)·eps·β³/π³` of `C19.two_particle_bound_matsubara`.  At
  general complex frequencies only the non-resonant regime is bounded (`chi4_truncation_bound_partial`).
-/
import PomerolModel.Spec.Lehmann
import PomerolModel.Spec.Susc
import PomerolModel.Spec.Chi4
import Mathlib.Algebra.BigOperators.Group.Finset.Basic
import Mathlib.Algebra.Order.BigOperators.Group.Finset
import Mathlib.Analysis.Complex.Norm
import Mathlib.LinearAlgebra.Matrix.ConjTranspose
import Mathlib.Tactic.Positivity

namespace Pomerol.Spec
open Matrix Complex

variable {ι : Type} [Fintype ι] [DecidableEq ι]

set_option linter.unusedSectionVars false

theorem mul_conjTranspose_diag (M : Matrix ι ι ℂ) (n : ι) :
    (M * Mᴴ) n n = ((∑ m, Complex.normSq (M n m) : ℝ) : ℂ) := by
  rw [Matrix.mul_apply]
  push_cast
  refine Finset.sum_congr rfl fun m _ => ?_
  rw [conjTranspose_apply, Complex.star_def, Complex.mul_conj]

theorem conjTranspose_mul_diag (M : Matrix ι ι ℂ) (n : ι) :
    (Mᴴ * M) n n = ((∑ m, Complex.normSq (M m n) : ℝ) : ℂ) := by
  rw [Matrix.mul_apply]
  push_cast
  refine Finset.sum_congr rfl fun m _ => ?_
  rw [conjTranspose_apply, Complex.star_def, mul_comm, Complex.mul_conj]

theorem row_normSq_le_one (C : Matrix ι ι ℂ) (hcar : C * Cᴴ + Cᴴ * C = 1) (n : ι) :
    ∑ m, Complex.normSq (C n m) ≤ 1 := by
  have h := congrFun (congrFun hcar n) n
  rw [Matrix.add_apply, mul_conjTranspose_diag, conjTranspose_mul_diag, one_apply_eq] at h
  have h' : (∑ m, Complex.normSq (C n m)) + ∑ m, Complex.normSq (C m n) = 1 := by
    rwa [← Complex.ofReal_add, Complex.ofReal_eq_one] at h
  exact (le_add_of_nonneg_right
    (Finset.sum_nonneg fun m _ => Complex.normSq_nonneg (C m n))).trans_eq h'

theorem col_normSq_le_one (C : Matrix ι ι ℂ) (hcar : C * Cᴴ + Cᴴ * C = 1) (n : ι) :
    ∑ m, Complex.normSq (C m n) ≤ 1 := by
  have h : Cᴴ * Cᴴᴴ + Cᴴᴴ * Cᴴ = 1 := by
    rw [conjTranspose_conjTranspose, add_comm]; exact hcar
  simpa only [conjTranspose_apply, Complex.star_def, Complex.normSq_conj]
    using row_normSq_le_one Cᴴ h n

/-- the summation step of every truncation bound; the `g` are summed over all tuples, not only
those of `S` -/
theorem norm_sum_le_sum_mul {α : Type} [Fintype α] (S : Finset α) (t : α → ℂ) (g : α → ℝ)
    (hg : ∀ p, 0 ≤ g p) {c : ℝ} (hc : 0 ≤ c) (h : ∀ p ∈ S, ‖t p‖ ≤ g p * c) :
    ‖∑ p ∈ S, t p‖ ≤ (∑ p, g p) * c :=
  calc ‖∑ p ∈ S, t p‖ ≤ ∑ p ∈ S, g p * c := norm_sum_le_of_le S h
    _ ≤ ∑ p, g p * c :=
      Finset.sum_le_sum_of_subset_of_nonneg (Finset.subset_univ S)
        fun p _ _ => mul_nonneg (hg p) hc
    _ = (∑ p, g p) * c := (Finset.sum_mul ..).symm

theorem norm_mul_norm_le (a b : ℂ) : ‖a‖ * ‖b‖ ≤ (Complex.normSq a + Complex.normSq b) / 2 := by
  rw [Complex.normSq_eq_norm_sq, Complex.normSq_eq_norm_sq]
  linarith [two_mul_le_add_sq ‖a‖ ‖b‖]

/-- if every row of `A` and every column of `B` has Euclidean norm `≤ 1` (true for operators obeying
the CAR and for products `c†c` of them), the sum of norms is at most `dim` -/
theorem absWeight_le_card (A B : Matrix ι ι ℂ) (hA : ∀ n, ∑ m, Complex.normSq (A n m) ≤ 1)
    (hB : ∀ n, ∑ m, Complex.normSq (B m n) ≤ 1) :
    ∑ n, ∑ m, ‖A n m‖ * ‖B m n‖ ≤ Fintype.card ι :=
  calc ∑ n, ∑ m, ‖A n m‖ * ‖B m n‖
      ≤ ∑ n, ∑ m, (Complex.normSq (A n m) + Complex.normSq (B m n)) / 2 :=
        Finset.sum_le_sum fun n _ => Finset.sum_le_sum fun m _ => norm_mul_norm_le _ _
    _ = ∑ n, ((∑ m, Complex.normSq (A n m)) + ∑ m, Complex.normSq (B m n)) / 2 :=
        Finset.sum_congr rfl fun n _ => by rw [← Finset.sum_div, Finset.sum_add_distrib]
    _ ≤ ∑ _n : ι, ((1:ℝ) + 1) / 2 :=
        Finset.sum_le_sum fun n _ => div_le_div_of_nonneg_right (add_le_add (hA n) (hB n)) zero_le_two
    _ = Fintype.card ι := by
        rw [add_self_div_two, Finset.sum_const, Finset.card_univ, nsmul_eq_mul, mul_one]

theorem gTerm_bound (d : EigenData ι) (C D : Matrix ι ι ℂ) (z : ℂ) (hz : z.im ≠ 0) (n m : ι)
    (eps : ℝ) (hn : d.w n ≤ eps) (hm : d.w m ≤ eps) :
    ‖d.gTerm C Dᴴ z n m‖ ≤ ‖C n m‖ * ‖Dᴴ m n‖ * (2 * eps / |z.im|) := by
  have hz' : 0 < |z.im| := abs_pos.mpr hz
  have hden : |z.im| ≤ ‖z - ((d.E m - d.E n : ℝ) : ℂ)‖ := by
    simpa only [Complex.sub_im, Complex.ofReal_im, sub_zero]
      using Complex.abs_im_le_norm (z - ((d.E m - d.E n : ℝ) : ℂ))
  have hw := norm_ofReal_add_le (w_nonneg d n) (w_nonneg d m) hn hm
  unfold EigenData.gTerm
  rw [norm_div, norm_mul, norm_mul, mul_div_assoc]
  exact mul_le_mul_of_nonneg_left
    (div_le_div₀ (mul_nonneg zero_le_two ((w_nonneg d n).trans hn)) hw hz' hden)
    (mul_nonneg (norm_nonneg _) (norm_nonneg _))

/-- truncation bound for G (property C19): `S` is any set of index pairs all of whose weights are
≤ eps (the skipped terms); `C`, `D` are the eigenbasis matrices of c_i, c_j (so CX = Dᴴ); then the
skipped part of the Lehmann sum is at most 2·eps·dim/|Im z| -/
theorem trunc_bound_G [Nonempty ι] (d : EigenData ι) (C D : Matrix ι ι ℂ)
    (hC : C * Cᴴ + Cᴴ * C = 1) (hD : D * Dᴴ + Dᴴ * D = 1)
    (eps : ℝ) (heps : 0 ≤ eps) (S : Finset (ι × ι))
    (hS : ∀ p ∈ S, d.w p.1 ≤ eps ∧ d.w p.2 ≤ eps)
    (z : ℂ) (hz : z.im ≠ 0) :
    ‖∑ p ∈ S, C p.1 p.2 * (Dᴴ) p.2 p.1 * ((d.w p.1 : ℂ) + (d.w p.2 : ℂ))
        / (z - ((d.E p.2 - d.E p.1 : ℝ) : ℂ))‖
      ≤ 2 * eps * (Fintype.card ι) / |z.im| := by
  have hfac : 0 ≤ 2 * eps / |z.im| := by positivity
  have hW : ∑ p : ι × ι, ‖C p.1 p.2‖ * ‖Dᴴ p.2 p.1‖ ≤ Fintype.card ι := by
    rw [Fintype.sum_prod_type]
    refine absWeight_le_card C Dᴴ (row_normSq_le_one C hC) fun n => ?_
    simpa only [conjTranspose_apply, Complex.star_def, Complex.normSq_conj]
      using row_normSq_le_one D hD n
  calc _ ≤ (∑ p : ι × ι, ‖C p.1 p.2‖ * ‖Dᴴ p.2 p.1‖) * (2 * eps / |z.im|) :=
        norm_sum_le_sum_mul S _ (fun p : ι × ι => ‖C p.1 p.2‖ * ‖Dᴴ p.2 p.1‖)
          (fun _ => mul_nonneg (norm_nonneg _) (norm_nonneg _)) hfac fun p hp =>
          gTerm_bound d C D z hz p.1 p.2 eps (hS p hp).1 (hS p hp).2
    _ ≤ Fintype.card ι * (2 * eps / |z.im|) := mul_le_mul_of_nonneg_right hW hfac
    _ = 2 * eps * (Fintype.card ι) / |z.im| := by ring

theorem trunc_bound_avg (d : EigenData ι) (A : Matrix ι ι ℂ) (M : ℝ) (hA : ∀ s, ‖A s s‖ ≤ M)
    (eps : ℝ) (heps : 0 ≤ eps) (S : Finset ι) (hS : ∀ s ∈ S, d.w s ≤ eps) :
    ‖∑ s ∈ S, A s s * (d.w s : ℂ)‖ ≤ eps * M * (Fintype.card ι) := by
  refine (norm_sum_le_sum_mul S _ (fun _ => M) (fun s => (norm_nonneg _).trans (hA s)) heps
    fun s hs => ?_).trans_eq ?_
  · rw [norm_mul, Complex.norm_real, Real.norm_eq_abs, abs_of_nonneg (w_nonneg d s)]
    exact mul_le_mul (hA s) (hS s hs) (w_nonneg d s) ((norm_nonneg _).trans (hA s))
  · rw [Finset.sum_const, Finset.card_univ, nsmul_eq_mul]; ring

theorem sum_not_mem {α : Type} [Fintype α] [DecidableEq α] (S : Finset α) (f : α → ℂ) :
    (∑ x, if x ∉ S then f x else 0) = (∑ x, f x) - ∑ x ∈ S, f x := by
  rw [eq_sub_iff_add_eq, ← Finset.sum_filter, Finset.filter_not, Finset.filter_mem_eq_inter,
    Finset.univ_inter, Finset.sum_sdiff (Finset.subset_univ S)]

/-- a stripe is skipped only when both blocks are discarded -/
theorem stripe_rule_pairs (D : Finset ι) (f : ι → ι → ℂ) :
    (∑ n, ∑ m, if n ∉ D ∨ m ∉ D then f n m else 0)
      = (∑ n, ∑ m, f n m) - ∑ p ∈ D ×ˢ D, f p.1 p.2 := by
  have h := sum_not_mem (D ×ˢ D) fun p : ι × ι => f p.1 p.2
  simp only [Finset.mem_product, not_and_or, Fintype.sum_prod_type] at h
  exact h

/-- a world line is skipped only when all four states are discarded -/
theorem stripe_rule_quads (D : Finset ι) (f : ι → ι → ι → ι → ℂ) :
    (∑ n1, ∑ n2, ∑ n3, ∑ n4,
        if n1 ∉ D ∨ n2 ∉ D ∨ n3 ∉ D ∨ n4 ∉ D then f n1 n2 n3 n4 else 0)
      = (∑ n1, ∑ n2, ∑ n3, ∑ n4, f n1 n2 n3 n4)
        - ∑ p ∈ D ×ˢ D ×ˢ D ×ˢ D, f p.1 p.2.1 p.2.2.1 p.2.2.2 := by
  rw [sum4_eq_sum_prod, sum4_eq_sum_prod]
  simpa only [Finset.mem_product, not_and_or] using
    sum_not_mem (D ×ˢ D ×ˢ D ×ˢ D) fun p : ι × ι × ι × ι => f p.1 p.2.1 p.2.2.1 p.2.2.2

theorem low_pairs {d : EigenData ι} {D : Finset ι} {eps : ℝ} (hD : ∀ n ∈ D, d.w n ≤ eps) :
    ∀ p ∈ D ×ˢ D, d.w p.1 ≤ eps ∧ d.w p.2 ≤ eps := fun p hp => by
  rw [Finset.mem_product] at hp
  exact ⟨hD _ hp.1, hD _ hp.2⟩

theorem low_quads {d : EigenData ι} {D : Finset ι} {eps : ℝ} (hD : ∀ n ∈ D, d.w n ≤ eps) :
    ∀ p ∈ D ×ˢ D ×ˢ D ×ˢ D,
      d.w p.1 ≤ eps ∧ d.w p.2.1 ≤ eps ∧ d.w p.2.2.1 ≤ eps ∧ d.w p.2.2.2 ≤ eps := fun p hp => by
  simp only [Finset.mem_product] at hp
  exact ⟨hD _ hp.1, hD _ hp.2.1, hD _ hp.2.2.1, hD _ hp.2.2.2⟩

/-- the Lehmann sum of G after truncation: the term `(n, m)` is kept unless both states are
discarded -/
noncomputable def EigenData.truncLehmannG (d : EigenData ι) (C CX : Matrix ι ι ℂ) (D : Finset ι)
    (z : ℂ) : ℂ :=
  ∑ n, ∑ m, if n ∉ D ∨ m ∉ D then d.gTerm C CX z n m else 0

theorem stripe_rule_G (d : EigenData ι) (C CX : Matrix ι ι ℂ) (D : Finset ι) (z : ℂ) :
    d.truncLehmannG C CX D z
      = d.lehmannG C CX z - ∑ p ∈ D ×ˢ D, d.gTerm C CX z p.1 p.2 := by
  unfold EigenData.truncLehmannG
  rw [stripe_rule_pairs, lehmannG_eq_sum_gTerm]

theorem G_stripe_error [Nonempty ι] (d : EigenData ι) (C Dm : Matrix ι ι ℂ)
    (hC : C * Cᴴ + Cᴴ * C = 1) (hD : Dm * Dmᴴ + Dmᴴ * Dm = 1)
    (eps : ℝ) (heps : 0 ≤ eps) (D : Finset ι) (hD' : ∀ n ∈ D, d.w n ≤ eps)
    (z : ℂ) (hz : z.im ≠ 0) :
    ‖d.lehmannG C Dmᴴ z - d.truncLehmannG C Dmᴴ D z‖ ≤ 2 * eps * (Fintype.card ι) / |z.im| := by
  rw [stripe_rule_G, sub_sub_cancel]
  exact trunc_bound_G d C Dm hC hD eps heps (D ×ˢ D) (low_pairs hD') z hz

/-- mean-value estimate for the exponential, both signs of `t` -/
theorem abs_one_sub_exp_neg_le (t : ℝ) : |1 - Real.exp (-t)| ≤ |t| * max 1 (Real.exp (-t)) := by
  rcases le_total 0 t with ht | ht
  · have h1 : Real.exp (-t) ≤ 1 := Real.exp_le_one_iff.mpr (neg_nonpos.mpr ht)
    rw [abs_of_nonneg (sub_nonneg.mpr h1), abs_of_nonneg ht, max_eq_left h1, mul_one]
    linarith [Real.add_one_le_exp (-t)]
  · have h1 : 1 ≤ Real.exp (-t) := Real.one_le_exp (neg_nonneg.mpr ht)
    -- `1 + t ≤ e^t` times `e^{−t}`
    have h2 := mul_le_mul_of_nonneg_right (Real.add_one_le_exp t) (Real.exp_pos (-t)).le
    rw [← Real.exp_add, add_neg_cancel, Real.exp_zero] at h2
    rw [abs_of_nonpos (sub_nonpos.mpr h1), abs_of_nonpos ht, max_eq_right h1]
    linarith

theorem ratio_diff_le {β u v x : ℝ} (hβ : 0 ≤ β) (hu : 0 ≤ u)
    (hv : v = u * Real.exp (-β * x)) : |u - v| ≤ β * max u v * |x| := by
  rw [neg_mul] at hv
  have hmax : max u v = u * max 1 (Real.exp (-(β * x))) := by
    rw [hv, mul_max_of_nonneg _ _ hu, mul_one]
  calc |u - v| = u * |1 - Real.exp (-(β * x))| := by
        rw [hv, ← mul_one_sub, abs_mul, abs_of_nonneg hu]
    _ ≤ u * (|β * x| * max 1 (Real.exp (-(β * x)))) :=
        mul_le_mul_of_nonneg_left (abs_one_sub_exp_neg_le _) hu
    _ = β * max u v * |x| := by
        rw [hmax, abs_mul, abs_of_nonneg hβ]
        ring

theorem diffquot_imag_le {β u v x y eps : ℝ} (hβ : 0 ≤ β) (hu : 0 ≤ u)
    (hv : v = u * Real.exp (-β * x)) (hue : u ≤ eps) (hve : v ≤ eps)
    (ha : I * (y:ℂ) - (x:ℂ) ≠ 0) :
    ‖((u:ℂ) - v) / (I * (y:ℂ) - (x:ℂ))‖ ≤ β * eps := by
  rw [norm_div, div_le_iff₀ (norm_pos_iff.mpr ha), ← Complex.ofReal_sub, Complex.norm_real,
    Real.norm_eq_abs]
  have heps : 0 ≤ eps := hu.trans hue
  calc |u - v| ≤ β * max u v * |x| := ratio_diff_le hβ hu hv
    _ ≤ β * eps * ‖I * (y:ℂ) - (x:ℂ)‖ :=
      mul_le_mul (mul_le_mul_of_nonneg_left (max_le hue hve) hβ)
        (by simpa using Complex.abs_re_le_norm (I * (y:ℂ) - (x:ℂ)))
        (abs_nonneg x) (mul_nonneg hβ heps)

/-- the bosonic Lehmann sum after truncation: the term `(n, m)` is kept unless both states are
discarded -/
noncomputable def EigenData.truncLehmannSusc (d : EigenData ι) (A B : Matrix ι ι ℂ) (D : Finset ι)
    (k : ℤ) : ℂ :=
  ∑ n, ∑ m, if n ∉ D ∨ m ∉ D then d.suscTerm A B k n m else 0

theorem stripe_rule_susc (d : EigenData ι) (A B : Matrix ι ι ℂ) (D : Finset ι) (k : ℤ) :
    d.truncLehmannSusc A B D k
      = d.lehmannSusc A B k - ∑ p ∈ D ×ˢ D, d.suscTerm A B k p.1 p.2 := by
  unfold EigenData.truncLehmannSusc
  rw [stripe_rule_pairs, lehmannSusc_eq_sum_suscTerm]

theorem suscTerm_bound (d : EigenData ι) (A B : Matrix ι ι ℂ) (k : ℤ) (hk : k ≠ 0) (n m : ι)
    (eps : ℝ) (hn : d.w n ≤ eps) (hm : d.w m ≤ eps) :
    ‖d.suscTerm A B k n m‖ ≤ ‖A n m‖ * ‖B m n‖ * (eps / |d.Ω k|) := by
  have hΩ := abs_Omega_pos d hk
  have heps : 0 ≤ eps := (w_nonneg d n).trans hn
  by_cases hE : d.E m = d.E n
  · rw [suscTerm_of_eq d A B k hE, if_neg hk, norm_zero]
    positivity
  · rw [norm_suscTerm_of_ne d A B k hE, norm_div]
    exact mul_le_mul_of_nonneg_left
      (div_le_div₀ heps (norm_ofReal_sub_le (w_nonneg d n) (w_nonneg d m) hn hm) hΩ
        (abs_le_norm_I_mul_sub _ _))
      (mul_nonneg (norm_nonneg _) (norm_nonneg _))

/-- holds at every `k`: a small denominator comes with a small difference of weights -/
theorem suscTerm_bound_beta (d : EigenData ι) (A B : Matrix ι ι ℂ) (k : ℤ) (n m : ι)
    (eps : ℝ) (hn : d.w n ≤ eps) (hm : d.w m ≤ eps) :
    ‖d.suscTerm A B k n m‖ ≤ ‖A n m‖ * ‖B m n‖ * (d.β * eps) := by
  have hβ := d.hβ.le
  have heps : 0 ≤ eps := (w_nonneg d n).trans hn
  by_cases hE : d.E m = d.E n
  · rw [suscTerm_of_eq d A B k hE]
    split_ifs
    · rw [norm_mul, norm_mul, norm_mul, Complex.norm_real, Complex.norm_real, Real.norm_eq_abs,
        Real.norm_eq_abs, abs_of_pos d.hβ, abs_of_nonneg (w_nonneg d n), mul_assoc, mul_comm]
      exact mul_le_mul_of_nonneg_left (mul_le_mul_of_nonneg_left hn hβ)
        (mul_nonneg (norm_nonneg _) (norm_nonneg _))
    · rw [norm_zero]; positivity
  · rw [norm_suscTerm_of_ne d A B k hE]
    exact mul_le_mul_of_nonneg_left
      (diffquot_imag_le hβ (w_nonneg d n) (w_ratio' d n m) hn hm
        (I_Omega_sub_ne_zero d k _ (Or.inl (sub_ne_zero.mpr hE))))
      (mul_nonneg (norm_nonneg _) (norm_nonneg _))

/-- sharp form of the dynamic bound (constant 1 instead of 2) -/
theorem susc_truncation_bound_sharp (d : EigenData ι) (A B : Matrix ι ι ℂ) (k : ℤ) (hk : k ≠ 0)
    (eps : ℝ) (heps : 0 ≤ eps) (S : Finset (ι × ι))
    (hS : ∀ p ∈ S, d.w p.1 ≤ eps ∧ d.w p.2 ≤ eps) :
    ‖∑ p ∈ S, d.suscTerm A B k p.1 p.2‖
      ≤ eps * (∑ n, ∑ m, ‖A n m‖ * ‖B m n‖) / |d.Ω k| := by
  have hΩ := abs_Omega_pos d hk
  refine (norm_sum_le_sum_mul S _ (fun p : ι × ι => ‖A p.1 p.2‖ * ‖B p.2 p.1‖)
    (fun _ => mul_nonneg (norm_nonneg _) (norm_nonneg _)) (div_nonneg heps hΩ.le) fun p hp =>
      suscTerm_bound d A B k hk p.1 p.2 eps (hS p hp).1 (hS p hp).2).trans_eq ?_
  rw [Fintype.sum_prod_type]; ring

theorem susc_truncation_bound (d : EigenData ι) (A B : Matrix ι ι ℂ) (k : ℤ) (hk : k ≠ 0)
    (eps : ℝ) (heps : 0 ≤ eps) (S : Finset (ι × ι))
    (hS : ∀ p ∈ S, d.w p.1 ≤ eps ∧ d.w p.2 ≤ eps) :
    ‖∑ p ∈ S, d.suscTerm A B k p.1 p.2‖
      ≤ 2 * eps * (∑ n, ∑ m, ‖A n m‖ * ‖B m n‖) / |d.Ω k| := by
  have h := susc_truncation_bound_sharp d A B k hk eps heps S hS
  calc ‖∑ p ∈ S, d.suscTerm A B k p.1 p.2‖
      ≤ eps * (∑ n, ∑ m, ‖A n m‖ * ‖B m n‖) / |d.Ω k| := h
    _ ≤ 2 * eps * (∑ n, ∑ m, ‖A n m‖ * ‖B m n‖) / |d.Ω k| := by
        -- the sharp bound is `≥ 0` (it bounds a norm), hence at most twice itself
        rw [mul_assoc 2, mul_div_assoc 2]
        exact le_mul_of_one_le_left ((norm_nonneg _).trans h) one_le_two

theorem susc_truncation_bound_static (d : EigenData ι) (A B : Matrix ι ι ℂ)
    (eps : ℝ) (heps : 0 ≤ eps) (S : Finset (ι × ι))
    (hS : ∀ p ∈ S, d.w p.1 ≤ eps ∧ d.w p.2 ≤ eps) :
    ‖∑ p ∈ S, d.suscTerm A B 0 p.1 p.2‖
      ≤ d.β * eps * (∑ n, ∑ m, ‖A n m‖ * ‖B m n‖) := by
  refine (norm_sum_le_sum_mul S _ (fun p : ι × ι => ‖A p.1 p.2‖ * ‖B p.2 p.1‖)
    (fun _ => mul_nonneg (norm_nonneg _) (norm_nonneg _)) (mul_nonneg d.hβ.le heps) fun p hp =>
      suscTerm_bound_beta d A B 0 p.1 p.2 eps (hS p hp).1 (hS p hp).2).trans_eq ?_
  rw [Fintype.sum_prod_type]; ring

theorem susc_stripe_error (d : EigenData ι) (A B : Matrix ι ι ℂ) (k : ℤ) (hk : k ≠ 0)
    (eps : ℝ) (heps : 0 ≤ eps) (D : Finset ι) (hD : ∀ n ∈ D, d.w n ≤ eps) :
    ‖d.lehmannSusc A B k - d.truncLehmannSusc A B D k‖
      ≤ 2 * eps * (∑ n, ∑ m, ‖A n m‖ * ‖B m n‖) / |d.Ω k| := by
  rw [stripe_rule_susc, sub_sub_cancel]
  exact susc_truncation_bound d A B k hk eps heps (D ×ˢ D) (low_pairs hD)

theorem susc_stripe_error_static (d : EigenData ι) (A B : Matrix ι ι ℂ)
    (eps : ℝ) (heps : 0 ≤ eps) (D : Finset ι) (hD : ∀ n ∈ D, d.w n ≤ eps) :
    ‖d.lehmannSusc A B 0 - d.truncLehmannSusc A B D 0‖
      ≤ d.β * eps * (∑ n, ∑ m, ‖A n m‖ * ‖B m n‖) := by
  rw [stripe_rule_susc, sub_sub_cancel]
  exact susc_truncation_bound_static d A B eps heps (D ×ˢ D) (low_pairs hD)

theorem susc_stripe_error_dim (d : EigenData ι) (A B : Matrix ι ι ℂ)
    (hA : ∀ n, ∑ m, Complex.normSq (A n m) ≤ 1) (hB : ∀ n, ∑ m, Complex.normSq (B m n) ≤ 1)
    (k : ℤ) (hk : k ≠ 0) (eps : ℝ) (heps : 0 ≤ eps) (D : Finset ι) (hD : ∀ n ∈ D, d.w n ≤ eps) :
    ‖d.lehmannSusc A B k - d.truncLehmannSusc A B D k‖
      ≤ 2 * eps * (Fintype.card ι) / |d.Ω k| := by
  have hΩ := abs_Omega_pos d hk
  refine (susc_stripe_error d A B k hk eps heps D hD).trans ?_
  exact div_le_div_of_nonneg_right
    (mul_le_mul_of_nonneg_left (absWeight_le_card A B hA hB) (mul_nonneg zero_le_two heps)) hΩ.le

theorem susc_stripe_error_static_dim (d : EigenData ι) (A B : Matrix ι ι ℂ)
    (hA : ∀ n, ∑ m, Complex.normSq (A n m) ≤ 1) (hB : ∀ n, ∑ m, Complex.normSq (B m n) ≤ 1)
    (eps : ℝ) (heps : 0 ≤ eps) (D : Finset ι) (hD : ∀ n ∈ D, d.w n ≤ eps) :
    ‖d.lehmannSusc A B 0 - d.truncLehmannSusc A B D 0‖ ≤ d.β * eps * (Fintype.card ι) := by
  refine (susc_stripe_error_static d A B eps heps D hD).trans ?_
  exact mul_le_mul_of_nonneg_left (absWeight_le_card A B hA hB) (mul_nonneg d.hβ.le heps)

/-- `(C†D)(C†D)† = C†C − (DC)†(DC)` (from `DD† = 1 − D†D`): a row of `C†D` is no longer than a column
of `C` -/
theorem quadratic_row_normSq_le_one (C Dm : Matrix ι ι ℂ) (hC : C * Cᴴ + Cᴴ * C = 1)
    (hD : Dm * Dmᴴ + Dmᴴ * Dm = 1) (n : ι) :
    ∑ m, Complex.normSq ((Cᴴ * Dm) n m) ≤ 1 := by
  have hDD : Dm * Dmᴴ = 1 - Dmᴴ * Dm := eq_sub_of_add_eq hD
  have key : (Cᴴ * Dm) * (Cᴴ * Dm)ᴴ = Cᴴ * C - (Dm * C)ᴴ * (Dm * C) := by
    rw [conjTranspose_mul, conjTranspose_conjTranspose, conjTranspose_mul]
    calc Cᴴ * Dm * (Dmᴴ * C) = Cᴴ * (Dm * Dmᴴ) * C := by simp only [Matrix.mul_assoc]
      _ = Cᴴ * C - Cᴴ * Dmᴴ * (Dm * C) := by
        rw [hDD, Matrix.mul_sub, Matrix.sub_mul, Matrix.mul_one]
        simp only [Matrix.mul_assoc]
  have h := congrFun (congrFun key n) n
  rw [mul_conjTranspose_diag, Matrix.sub_apply, conjTranspose_mul_diag, conjTranspose_mul_diag] at h
  have h' : ∑ m, Complex.normSq ((Cᴴ * Dm) n m)
      = ∑ m, Complex.normSq (C m n) - ∑ m, Complex.normSq ((Dm * C) m n) := by
    rwa [← Complex.ofReal_sub, Complex.ofReal_inj] at h
  rw [h']
  exact (sub_le_self _ (Finset.sum_nonneg fun _ _ => Complex.normSq_nonneg _)).trans
    (col_normSq_le_one C hC n)

theorem quadratic_col_normSq_le_one (E F : Matrix ι ι ℂ) (hE : E * Eᴴ + Eᴴ * E = 1)
    (hF : F * Fᴴ + Fᴴ * F = 1) (n : ι) :
    ∑ m, Complex.normSq ((Eᴴ * F) m n) ≤ 1 := by
  have h := quadratic_row_normSq_le_one F E hF hE n
  have e : ∀ m, (Fᴴ * E) n m = star ((Eᴴ * F) m n) := by
    intro m
    rw [← conjTranspose_apply, conjTranspose_mul, conjTranspose_conjTranspose]
  simp only [e, Complex.star_def, Complex.normSq_conj] at h
  exact h

/-- non-resonant regime with margin `δ`: all six denominators that occur in the non-resonant branches
of `multiTerm` are at least `δ` in modulus -/
structure NonResonant (δ : ℝ) (z1 z2 z3 : ℂ) (P1 P2 P3 : ℝ) : Prop where
  h1 : δ ≤ ‖z1 - (P1:ℂ)‖
  h2 : δ ≤ ‖z2 - (P2:ℂ)‖
  h3 : δ ≤ ‖z3 - (P3:ℂ)‖
  h12 : δ ≤ ‖z1 + z2 - (P1:ℂ) - (P2:ℂ)‖
  h23 : δ ≤ ‖z2 + z3 - (P2:ℂ) - (P3:ℂ)‖
  h123 : δ ≤ ‖z1 + z2 + z3 - (P1:ℂ) - (P2:ℂ) - (P3:ℂ)‖

theorem norm_div_mul2_le {x a b : ℂ} {N δ : ℝ} (hδ : 0 < δ) (hx : ‖x‖ ≤ N)
    (ha : δ ≤ ‖a‖) (hb : δ ≤ ‖b‖) : ‖x / (a * b)‖ ≤ N / δ ^ 2 := by
  rw [norm_div, norm_mul]
  have hN : 0 ≤ N := (norm_nonneg _).trans hx
  calc ‖x‖ / (‖a‖ * ‖b‖) ≤ N / (δ * δ) :=
        div_le_div₀ hN hx (mul_pos hδ hδ) (mul_le_mul ha hb hδ.le (norm_nonneg _))
    _ = N / δ ^ 2 := by rw [sq]

theorem norm_div_mul3_le {x a b c : ℂ} {N δ : ℝ} (hδ : 0 < δ) (hx : ‖x‖ ≤ N)
    (ha : δ ≤ ‖a‖) (hb : δ ≤ ‖b‖) (hc : δ ≤ ‖c‖) : ‖x / (a * b * c)‖ ≤ N / δ ^ 3 := by
  have h2 := norm_div_mul2_le hδ hx ha hb
  rw [div_mul_eq_div_div, norm_div]
  calc ‖x / (a * b)‖ / ‖c‖ ≤ N / δ ^ 2 / δ := div_le_div₀ ((norm_nonneg _).trans h2) h2 hδ hc
    _ = N / δ ^ 3 := by rw [div_div, ← pow_succ]

/-- the bound of one world line in every regime: the regimes differ only in the bound `b` of the
two brackets -/
theorem multiTerm_norm_le (β : ℝ) (z1 z2 z3 : ℂ) (P1 P2 P3 : ℝ) (wi wj wk wl eps δ b : ℝ)
    (hδ : 0 < δ) (h1 : δ ≤ ‖z1 - (P1:ℂ)‖) (h2 : δ ≤ ‖z2 - (P2:ℂ)‖) (h3 : δ ≤ ‖z3 - (P3:ℂ)‖)
    (h123 : δ ≤ ‖z1 + z2 + z3 - (P1:ℂ) - (P2:ℂ) - (P3:ℂ)‖)
    (hi0 : 0 ≤ wi) (hj0 : 0 ≤ wj) (hk0 : 0 ≤ wk) (hl0 : 0 ≤ wl)
    (hi : wi ≤ eps) (hj : wj ≤ eps) (hk : wk ≤ eps) (hl : wl ≤ eps)
    (b3 : ‖(if z1 + z2 - (P1:ℂ) - (P2:ℂ) = 0 then (β:ℂ) * wi
      else ((wk:ℂ) - wi) / (z1 + z2 - P1 - P2))‖ ≤ b)
    (b4 : ‖(if z2 + z3 - (P2:ℂ) - (P3:ℂ) = 0 then -((β:ℂ) * wj)
      else ((wj:ℂ) - wl) / (z2 + z3 - P2 - P3))‖ ≤ b) :
    ‖multiTerm β z1 z2 z3 P1 P2 P3 wi wj wk wl‖ ≤ 4 * eps / δ ^ 3 + 2 * b / δ ^ 2 := by
  unfold multiTerm
  have t1 : ‖(-((wj:ℂ) + wk)) / ((z1 - P1) * (z2 - P2) * (z3 - P3))‖ ≤ (2 * eps) / δ ^ 3 :=
    norm_div_mul3_le hδ (by rw [norm_neg]; exact norm_ofReal_add_le hj0 hk0 hj hk) h1 h2 h3
  have t2 : ‖((wi:ℂ) + wl) / ((z1 - P1) * (z1 + z2 + z3 - P1 - P2 - P3) * (z3 - P3))‖
      ≤ (2 * eps) / δ ^ 3 :=
    norm_div_mul3_le hδ (norm_ofReal_add_le hi0 hl0 hi hl) h1 h123 h3
  have t3 := norm_div_mul2_le hδ b3 h1 h3
  have t4 := norm_div_mul2_le hδ b4 h1 h3
  refine (norm_add₄_le.trans (add_le_add (add_le_add (add_le_add t1 t2) t3) t4)).trans_eq ?_
  ring

/-- bound for one world line (unit matrix-element product), non-resonant regime: if all six
denominators are `≥ δ > 0` in modulus and the four weights lie in `[0, eps]`, the modulus of `multiTerm`
is at most `6·eps/δ³` (2 + 2 + 1 + 1 from its four terms).  Not covered are the resonant classes
`z₁+z₂ = P₁+P₂` / `z₂+z₃ = P₂+P₃`, where `multiTerm` contains the terms `β·w_i/((z₁−P₁)(z₃−P₃))`,
`−β·w_j/((z₁−P₁)(z₃−P₃))` (these would give `β·eps/δ²`), and near-resonant denominators below `δ`. -/
theorem multiTerm_bound_nonres (β : ℝ) (z1 z2 z3 : ℂ) (P1 P2 P3 : ℝ) (wi wj wk wl eps δ : ℝ)
    (hδ : 0 < δ) (hnr : NonResonant δ z1 z2 z3 P1 P2 P3)
    (hi0 : 0 ≤ wi) (hj0 : 0 ≤ wj) (hk0 : 0 ≤ wk) (hl0 : 0 ≤ wl)
    (hi : wi ≤ eps) (hj : wj ≤ eps) (hk : wk ≤ eps) (hl : wl ≤ eps) :
    ‖multiTerm β z1 z2 z3 P1 P2 P3 wi wj wk wl‖ ≤ 6 * eps / δ ^ 3 := by
  obtain ⟨h1, h2, h3, h12, h23, h123⟩ := hnr
  have hq : ∀ {x c : ℂ}, ‖x‖ ≤ eps → δ ≤ ‖c‖ → ‖x / c‖ ≤ eps / δ := fun hx hc => by
    rw [norm_div]; exact div_le_div₀ ((norm_nonneg _).trans hx) hx hδ hc
  have n12 : z1 + z2 - (P1:ℂ) - (P2:ℂ) ≠ 0 := fun h => by
    rw [h, norm_zero] at h12; exact (hδ.trans_le h12).false
  have n23 : z2 + z3 - (P2:ℂ) - (P3:ℂ) ≠ 0 := fun h => by
    rw [h, norm_zero] at h23; exact (hδ.trans_le h23).false
  -- off resonance each bracket is a difference of weights over a denominator `≥ δ`
  refine (multiTerm_norm_le β z1 z2 z3 P1 P2 P3 wi wj wk wl eps δ (eps / δ) hδ h1 h2 h3 h123
    hi0 hj0 hk0 hl0 hi hj hk hl ?_ ?_).trans_eq ?_
  · rw [if_neg n12]; exact hq (norm_ofReal_sub_le hk0 hi0 hk hi) h12
  · rw [if_neg n23]; exact hq (norm_ofReal_sub_le hj0 hl0 hj hl) h23
  · ring

noncomputable def EigenData.worldLineTerm (d : EigenData ι) (A B Cc X : Matrix ι ι ℂ)
    (za zb zc : ℂ) (n1 n2 n3 n4 : ι) : ℂ :=
  A n1 n2 * B n2 n3 * Cc n3 n4 * X n4 n1 *
    multiTerm d.β za zb zc (d.E n2 - d.E n1) (d.E n3 - d.E n2) (d.E n4 - d.E n3)
      (d.w n1) (d.w n2) (d.w n3) (d.w n4)

theorem orderedLehmann_eq_sum_worldLineTerm (d : EigenData ι) (A B Cc X : Matrix ι ι ℂ)
    (za zb zc : ℂ) :
    d.orderedLehmann A B Cc X za zb zc
      = ∑ n1, ∑ n2, ∑ n3, ∑ n4, d.worldLineTerm A B Cc X za zb zc n1 n2 n3 n4 := rfl

noncomputable def absWeight4 (A B Cc X : Matrix ι ι ℂ) : ℝ :=
  ∑ n1, ∑ n2, ∑ n3, ∑ n4, ‖A n1 n2‖ * ‖B n2 n3‖ * ‖Cc n3 n4‖ * ‖X n4 n1‖

theorem absWeight4_nonneg (A B Cc X : Matrix ι ι ℂ) : 0 ≤ absWeight4 A B Cc X :=
  Finset.sum_nonneg fun _ _ => Finset.sum_nonneg fun _ _ => Finset.sum_nonneg fun _ _ =>
    Finset.sum_nonneg fun _ _ => by positivity

theorem worldLine_sum_le (d : EigenData ι) (A B Cc X : Matrix ι ι ℂ) (za zb zc : ℂ) {c : ℝ}
    (hc : 0 ≤ c) (S : Finset (ι × ι × ι × ι))
    (h : ∀ p ∈ S, ‖multiTerm d.β za zb zc (d.E p.2.1 - d.E p.1) (d.E p.2.2.1 - d.E p.2.1)
      (d.E p.2.2.2 - d.E p.2.2.1) (d.w p.1) (d.w p.2.1) (d.w p.2.2.1) (d.w p.2.2.2)‖ ≤ c) :
    ‖∑ p ∈ S, d.worldLineTerm A B Cc X za zb zc p.1 p.2.1 p.2.2.1 p.2.2.2‖
      ≤ c * absWeight4 A B Cc X := by
  have hW : absWeight4 A B Cc X = ∑ p : ι × ι × ι × ι,
      ‖A p.1 p.2.1‖ * ‖B p.2.1 p.2.2.1‖ * ‖Cc p.2.2.1 p.2.2.2‖ * ‖X p.2.2.2 p.1‖ :=
    sum4_eq_sum_prod _
  rw [hW, mul_comm]
  refine norm_sum_le_sum_mul S _ _ (fun _ => by positivity) hc fun p hp => ?_
  unfold EigenData.worldLineTerm
  rw [norm_mul, norm_mul, norm_mul, norm_mul]
  exact mul_le_mul_of_nonneg_left (h p hp) (by positivity)

/-- truncation bound for one time ordering of the two-particle function, non-resonant regime only
(hence `_partial`): `S` is any set of world lines all four of whose weights are `≤ eps` and all of
whose denominators are `≥ δ` (hypothesis `hnr`); their total contribution to `orderedLehmann` is at
most `6·eps/δ³ · Σ ‖A‖‖B‖‖C‖‖X‖`.  Missing is the same for arbitrary complex frequencies without `hnr` (resonant and
near-resonant world lines, where `multiTerm` has `β`-proportional terms).  For purely imaginary
frequencies — the only ones the library uses — the full statement is proved below:
`chi4_truncation_bound_imag` (bound `4·eps/δ³ + 2·β·eps/δ²`, no hypothesis on the bosonic
denominators) and `chi_stripe_error_imag`. -/
theorem chi4_truncation_bound_partial (d : EigenData ι) (A B Cc X : Matrix ι ι ℂ) (za zb zc : ℂ)
    (eps δ : ℝ) (heps : 0 ≤ eps) (hδ : 0 < δ) (S : Finset (ι × ι × ι × ι))
    (hS : ∀ p ∈ S, d.w p.1 ≤ eps ∧ d.w p.2.1 ≤ eps ∧ d.w p.2.2.1 ≤ eps ∧ d.w p.2.2.2 ≤ eps)
    (hnr : ∀ p ∈ S, NonResonant δ za zb zc
      (d.E p.2.1 - d.E p.1) (d.E p.2.2.1 - d.E p.2.1) (d.E p.2.2.2 - d.E p.2.2.1)) :
    ‖∑ p ∈ S, d.worldLineTerm A B Cc X za zb zc p.1 p.2.1 p.2.2.1 p.2.2.2‖
      ≤ 6 * eps / δ ^ 3 * absWeight4 A B Cc X :=
  worldLine_sum_le d A B Cc X za zb zc (by positivity) S fun p hp =>
    multiTerm_bound_nonres d.β za zb zc _ _ _ _ _ _ _ eps δ hδ (hnr p hp)
      (w_nonneg d _) (w_nonneg d _) (w_nonneg d _) (w_nonneg d _)
      (hS p hp).1 (hS p hp).2.1 (hS p hp).2.2.1 (hS p hp).2.2.2

/-- `orderedLehmann` after truncation: a world line is kept unless all four states are discarded -/
noncomputable def EigenData.truncOrderedLehmann (d : EigenData ι) (A B Cc X : Matrix ι ι ℂ)
    (D : Finset ι) (za zb zc : ℂ) : ℂ :=
  ∑ n1, ∑ n2, ∑ n3, ∑ n4, if n1 ∉ D ∨ n2 ∉ D ∨ n3 ∉ D ∨ n4 ∉ D
    then d.worldLineTerm A B Cc X za zb zc n1 n2 n3 n4 else 0

theorem stripe_rule_ordered (d : EigenData ι) (A B Cc X : Matrix ι ι ℂ) (D : Finset ι)
    (za zb zc : ℂ) :
    d.truncOrderedLehmann A B Cc X D za zb zc
      = d.orderedLehmann A B Cc X za zb zc
        - ∑ p ∈ D ×ˢ D ×ˢ D ×ˢ D, d.worldLineTerm A B Cc X za zb zc p.1 p.2.1 p.2.2.1 p.2.2.2 := by
  unfold EigenData.truncOrderedLehmann
  rw [stripe_rule_quads, orderedLehmann_eq_sum_worldLineTerm]

/-- "full − truncated" form for one time ordering; non-resonance is required for all level
differences (hypothesis `hnr`), e.g. purely imaginary frequencies, see `nonResonant_of_imag` -/
theorem ordered_stripe_error_partial (d : EigenData ι) (A B Cc X : Matrix ι ι ℂ) (za zb zc : ℂ)
    (eps δ : ℝ) (heps : 0 ≤ eps) (hδ : 0 < δ) (D : Finset ι) (hD : ∀ n ∈ D, d.w n ≤ eps)
    (hnr : ∀ P1 P2 P3 : ℝ, NonResonant δ za zb zc P1 P2 P3) :
    ‖d.orderedLehmann A B Cc X za zb zc - d.truncOrderedLehmann A B Cc X D za zb zc‖
      ≤ 6 * eps / δ ^ 3 * absWeight4 A B Cc X := by
  rw [stripe_rule_ordered, sub_sub_cancel]
  exact chi4_truncation_bound_partial d A B Cc X za zb zc eps δ heps hδ _ (low_quads hD)
    (fun p _ => hnr _ _ _)

theorem I_mul_add_sub (y1 y2 P1 P2 : ℝ) :
    I * (y1:ℂ) + I * (y2:ℂ) - (P1:ℂ) - (P2:ℂ) = I * ((y1 + y2 : ℝ) : ℂ) - ((P1 + P2 : ℝ) : ℂ) := by
  push_cast; ring

theorem le_norm_I_mul_add3_sub {δ y1 y2 y3 : ℝ} (h123 : δ ≤ |y1 + y2 + y3|) (P1 P2 P3 : ℝ) :
    δ ≤ ‖I * (y1:ℂ) + I * (y2:ℂ) + I * (y3:ℂ) - (P1:ℂ) - (P2:ℂ) - (P3:ℂ)‖ := by
  have e : I * (y1:ℂ) + I * (y2:ℂ) + I * (y3:ℂ) - (P1:ℂ) - (P2:ℂ) - (P3:ℂ)
      = I * ((y1 + y2 + y3 : ℝ) : ℂ) - ((P1 + P2 + P3 : ℝ) : ℂ) := by push_cast; ring
  rw [e]; exact h123.trans (abs_le_norm_I_mul_sub _ _)

theorem nonResonant_of_imag (δ y1 y2 y3 : ℝ) (h1 : δ ≤ |y1|) (h2 : δ ≤ |y2|) (h3 : δ ≤ |y3|)
    (h12 : δ ≤ |y1 + y2|) (h23 : δ ≤ |y2 + y3|) (h123 : δ ≤ |y1 + y2 + y3|) (P1 P2 P3 : ℝ) :
    NonResonant δ (I * (y1:ℂ)) (I * (y2:ℂ)) (I * (y3:ℂ)) P1 P2 P3 := by
  refine ⟨h1.trans (abs_le_norm_I_mul_sub _ _), h2.trans (abs_le_norm_I_mul_sub _ _),
    h3.trans (abs_le_norm_I_mul_sub _ _), ?_, ?_, le_norm_I_mul_add3_sub h123 P1 P2 P3⟩
  · rw [I_mul_add_sub]; exact h12.trans (abs_le_norm_I_mul_sub _ _)
  · rw [I_mul_add_sub]; exact h23.trans (abs_le_norm_I_mul_sub _ _)

/-! ## the two-particle Green's function: all resonance classes at purely imaginary (Matsubara) frequencies

At purely imaginary frequencies the "bosonic" denominators `i(y₁+y₂) − (P₁+P₂)` may vanish or be
arbitrarily small (when `y₁+y₂ = 0`), but then the numerator `w_k − w_i` is small too: by
`ratio_diff_le` the bracket `(w_k − w_i)/(z₁+z₂−P₁−P₂)` is always at most `β·eps`, the same as the
resonant value `β·w_i`.  This gives a bound without any non-resonance hypothesis on `z₁+z₂`,
`z₂+z₃`. -/

theorem bracket_imag_le {β u v x y eps : ℝ} (hβ : 0 < β) (hu : 0 ≤ u)
    (hv : v = u * Real.exp (-β * x)) (hue : u ≤ eps) (hve : v ≤ eps) (r : ℂ) (hr : ‖r‖ = β * u) :
    ‖(if I * (y:ℂ) - (x:ℂ) = 0 then r else ((u:ℂ) - v) / (I * (y:ℂ) - (x:ℂ)))‖ ≤ β * eps := by
  split_ifs with h
  · rw [hr]; exact mul_le_mul_of_nonneg_left hue hβ.le
  · exact diffquot_imag_le hβ.le hu hv hue hve h

/-- bound for one world line, all resonance classes, purely imaginary frequencies `z_a = i·y_a`
with `|y_a| ≥ δ`, `|y₁+y₂+y₃| ≥ δ` (true for fermionic Matsubara frequencies with `δ = π/β`), weights
Boltzmann-related along the world line (as in `simplex_closed_form`) and all `≤ eps`:
`‖multiTerm‖ ≤ 4·eps/δ³ + 2·β·eps/δ²`.  No hypothesis on `y₁+y₂`, `y₂+y₃`. -/
theorem multiTerm_bound_imag (β : ℝ) (hβ : 0 < β) (y1 y2 y3 : ℝ) (P1 P2 P3 : ℝ)
    (wi wj wk wl eps δ : ℝ) (hδ : 0 < δ)
    (h1 : δ ≤ |y1|) (h2 : δ ≤ |y2|) (h3 : δ ≤ |y3|) (h123 : δ ≤ |y1 + y2 + y3|)
    (hi0 : 0 ≤ wi)
    (hj : wj = wi * Real.exp (-β * P1)) (hk : wk = wj * Real.exp (-β * P2))
    (hl : wl = wk * Real.exp (-β * P3))
    (hie : wi ≤ eps) (hje : wj ≤ eps) (hke : wk ≤ eps) (hle : wl ≤ eps) :
    ‖multiTerm β (I * (y1:ℂ)) (I * (y2:ℂ)) (I * (y3:ℂ)) P1 P2 P3 wi wj wk wl‖
      ≤ 4 * eps / δ ^ 3 + 2 * β * eps / δ ^ 2 := by
  have hj0 : 0 ≤ wj := by rw [hj]; exact mul_nonneg hi0 (Real.exp_pos _).le
  have hk0 : 0 ≤ wk := by rw [hk]; exact mul_nonneg hj0 (Real.exp_pos _).le
  have hl0 : 0 ≤ wl := by rw [hl]; exact mul_nonneg hk0 (Real.exp_pos _).le
  have hki : wk = wi * Real.exp (-β * (P1 + P2)) := by
    rw [hk, hj, mul_assoc, ← Real.exp_add, ← mul_add]
  have hlj : wl = wj * Real.exp (-β * (P2 + P3)) := by
    rw [hl, hk, mul_assoc, ← Real.exp_add, ← mul_add]
  have hnorm : ∀ w : ℝ, 0 ≤ w → ‖(β:ℂ) * (w:ℂ)‖ = β * w := fun w hw => by
    rw [← Complex.ofReal_mul, Complex.norm_real, Real.norm_eq_abs,
      abs_of_nonneg (mul_nonneg hβ.le hw)]
  refine (multiTerm_norm_le β _ _ _ P1 P2 P3 wi wj wk wl eps δ (β * eps) hδ
    (h1.trans (abs_le_norm_I_mul_sub _ _)) (h2.trans (abs_le_norm_I_mul_sub _ _))
    (h3.trans (abs_le_norm_I_mul_sub _ _)) (le_norm_I_mul_add3_sub h123 P1 P2 P3)
    hi0 hj0 hk0 hl0 hie hje hke hle ?_ ?_).trans_eq (by ring)
  · -- the first bracket is `(w_k − w_i)/…`, later weight first: negated it has the orientation
    -- `(u − v)/…`, `v = u·e^{−βx}`, of `bracket_imag_le` (the second bracket has it already)
    rw [I_mul_add_sub, ← norm_neg, neg_ite, ← neg_div, neg_sub]
    exact bracket_imag_le hβ hi0 hki hie hke _ (by rw [norm_neg, hnorm wi hi0])
  · rw [I_mul_add_sub]
    exact bracket_imag_le hβ hj0 hlj hje hle _ (by rw [norm_neg, hnorm wj hj0])

theorem chi4_truncation_bound_imag (d : EigenData ι) (A B Cc X : Matrix ι ι ℂ) (y1 y2 y3 : ℝ)
    (eps δ : ℝ) (heps : 0 ≤ eps) (hδ : 0 < δ)
    (h1 : δ ≤ |y1|) (h2 : δ ≤ |y2|) (h3 : δ ≤ |y3|) (h123 : δ ≤ |y1 + y2 + y3|)
    (S : Finset (ι × ι × ι × ι))
    (hS : ∀ p ∈ S, d.w p.1 ≤ eps ∧ d.w p.2.1 ≤ eps ∧ d.w p.2.2.1 ≤ eps ∧ d.w p.2.2.2 ≤ eps) :
    ‖∑ p ∈ S, d.worldLineTerm A B Cc X (I * (y1:ℂ)) (I * (y2:ℂ)) (I * (y3:ℂ))
        p.1 p.2.1 p.2.2.1 p.2.2.2‖
      ≤ (4 * eps / δ ^ 3 + 2 * d.β * eps / δ ^ 2) * absWeight4 A B Cc X := by
  have hβ := d.hβ -- for `positivity`
  exact worldLine_sum_le d A B Cc X _ _ _ (by positivity) S fun p hp =>
    multiTerm_bound_imag d.β d.hβ y1 y2 y3 _ _ _ _ _ _ _ eps δ hδ h1 h2 h3 h123
      (w_nonneg d _) (w_ratio' d _ _) (w_ratio' d _ _) (w_ratio' d _ _)
      (hS p hp).1 (hS p hp).2.1 (hS p hp).2.2.1 (hS p hp).2.2.2

theorem ordered_stripe_error_imag (d : EigenData ι) (A B Cc X : Matrix ι ι ℂ) (y1 y2 y3 : ℝ)
    (eps δ : ℝ) (heps : 0 ≤ eps) (hδ : 0 < δ)
    (h1 : δ ≤ |y1|) (h2 : δ ≤ |y2|) (h3 : δ ≤ |y3|) (h123 : δ ≤ |y1 + y2 + y3|)
    (D : Finset ι) (hD : ∀ n ∈ D, d.w n ≤ eps) :
    ‖d.orderedLehmann A B Cc X (I * (y1:ℂ)) (I * (y2:ℂ)) (I * (y3:ℂ))
        - d.truncOrderedLehmann A B Cc X D (I * (y1:ℂ)) (I * (y2:ℂ)) (I * (y3:ℂ))‖
      ≤ (4 * eps / δ ^ 3 + 2 * d.β * eps / δ ^ 2) * absWeight4 A B Cc X := by
  rw [stripe_rule_ordered, sub_sub_cancel]
  exact chi4_truncation_bound_imag d A B Cc X y1 y2 y3 eps δ heps hδ h1 h2 h3 h123 _ (low_quads hD)

noncomputable def EigenData.truncChiLehmann (d : EigenData ι) (O : Fin 3 → Matrix ι ι ℂ)
    (X : Matrix ι ι ℂ) (D : Finset ι) (z : Fin 3 → ℂ) : ℂ :=
  (perms3.map fun p => (p.2 : ℂ) * d.truncOrderedLehmann (O (p.1 0)) (O (p.1 1)) (O (p.1 2)) X D
    (z (p.1 0)) (z (p.1 1)) (z (p.1 2))).sum

noncomputable def absWeightChi (O : Fin 3 → Matrix ι ι ℂ) (X : Matrix ι ι ℂ) : ℝ :=
  (perms3.map fun p => absWeight4 (O (p.1 0)) (O (p.1 1)) (O (p.1 2)) X).sum

theorem list_sum_map_sub {α : Type} (l : List α) (f g : α → ℂ) :
    (l.map f).sum - (l.map g).sum = (l.map fun a => f a - g a).sum := by
  induction l with
  | nil => exact sub_self 0
  | cons a l ih =>
    simp only [List.map_cons, List.sum_cons]
    rw [← ih]; ring

theorem norm_list_map_sum_le {α : Type} (l : List α) (f : α → ℂ) (g : α → ℝ)
    (h : ∀ a ∈ l, ‖f a‖ ≤ g a) : ‖(l.map f).sum‖ ≤ (l.map g).sum :=
  (List.le_sum_of_subadditive norm norm_zero.le norm_add_le _).trans
    (by rw [List.map_map]; exact List.sum_le_sum h)

theorem perms3_sign_norm : ∀ p ∈ perms3, ‖((p.2 : ℤ) : ℂ)‖ = 1 := by
  intro p hp
  simp only [perms3, List.mem_cons, List.not_mem_nil, or_false] at hp
  rcases hp with rfl | rfl | rfl | rfl | rfl | rfl <;>
    simp only [Int.cast_one, Int.cast_neg, norm_neg, norm_one]

theorem sum_apply_perms3 (y : Fin 3 → ℝ) :
    ∀ p ∈ perms3, y (p.1 0) + y (p.1 1) + y (p.1 2) = y 0 + y 1 + y 2 := by
  intro p hp
  simp only [perms3, List.mem_cons, List.not_mem_nil, or_false] at hp
  rcases hp with rfl | rfl | rfl | rfl | rfl | rfl <;> simp <;> ring

theorem chi_stripe_error_imag (d : EigenData ι) (O : Fin 3 → Matrix ι ι ℂ) (X : Matrix ι ι ℂ)
    (y : Fin 3 → ℝ) (eps δ : ℝ) (heps : 0 ≤ eps) (hδ : 0 < δ)
    (hy : ∀ a, δ ≤ |y a|) (hsum : δ ≤ |y 0 + y 1 + y 2|)
    (D : Finset ι) (hD : ∀ n ∈ D, d.w n ≤ eps) :
    ‖d.chiLehmann O X (fun a => I * (y a : ℂ)) - d.truncChiLehmann O X D (fun a => I * (y a : ℂ))‖
      ≤ (4 * eps / δ ^ 3 + 2 * d.β * eps / δ ^ 2) * absWeightChi O X := by
  unfold EigenData.chiLehmann EigenData.truncChiLehmann absWeightChi
  rw [list_sum_map_sub, ← List.sum_map_mul_left]
  refine norm_list_map_sum_le _ _ _ (fun p hp => ?_)
  rw [← mul_sub, norm_mul, perms3_sign_norm p hp, one_mul]
  refine ordered_stripe_error_imag d _ _ _ X _ _ _ eps δ heps hδ (hy _) (hy _) (hy _) ?_ D hD
  rw [sum_apply_perms3 y p hp]
  exact hsum

theorem abs_omega_ge (d : EigenData ι) (k : ℤ) : Real.pi / d.β ≤ |d.ω k| := by
  have hpos : 0 < Real.pi / d.β := div_pos Real.pi_pos d.hβ
  have h1 : (1:ℤ) ≤ |2 * k + 1| := Int.one_le_abs (by omega)
  have h2 : (1:ℝ) ≤ |2 * (k:ℝ) + 1| := by exact_mod_cast h1
  rw [EigenData.ω, mul_div_assoc, abs_mul, abs_of_pos hpos]
  exact le_mul_of_one_le_left hpos.le h2

end Pomerol.Spec
