/-
  Bridge between the formulas extracted mechanically from the C++ sources
  (`PomerolModel/Generated/*Formulas.lean`, polymorphic in a real sort `R` and a complex sort `K`)
  and the mathematical formulas of the specification layer (`PomerolModel/Spec/*.lean`).

  The generated formulas are instantiated at `R := ℝ`, `K := ℂ` and shown to be the formulas the
  Spec theorems talk about; combined with the Spec main theorems this gives
  "the value the library's formulas give equals the definition".
-/
import PomerolModel.Generated.GFFormulas
import PomerolModel.Generated.Chi4Formulas
import PomerolModel.Generated.SuscFormulas
import PomerolModel.Generated.DMFormulas
import PomerolModel.Spec.GFProps
import PomerolModel.Spec.Susc
import PomerolModel.Spec.Chi4
import PomerolModel.Spec.Gibbs
import Mathlib.Tactic.NormNum.OfScientific
import Mathlib.Tactic.LinearCombination

namespace Pomerol.Spec.Bridge
open Pomerol Pomerol.Spec Complex

noncomputable instance : HasExp ℝ := ⟨Real.exp⟩
noncomputable instance : HasExp ℂ := ⟨Complex.exp⟩
noncomputable instance : CplxOver ℝ ℂ := ⟨Complex.ofReal, fun z => ‖z‖⟩

@[simp] theorem ofReal_eq (x : ℝ) : (CplxOver.ofReal (K := ℂ) x) = (x : ℂ) := rfl
@[simp] theorem abs_eq (z : ℂ) : (CplxOver.abs (R := ℝ) z) = ‖z‖ := rfl
@[simp] theorem expR_eq (x : ℝ) : (HasExp.exp x : ℝ) = Real.exp x := rfl
@[simp] theorem expC_eq (z : ℂ) : (HasExp.exp z : ℂ) = Complex.exp z := rfl

theorem absR_eq_abs (x : ℝ) : Pomerol.absR x = |x| := by
  unfold Pomerol.absR
  split_ifs with h
  · exact (abs_of_neg h).symm
  · exact (abs_of_nonneg (not_lt.mp h)).symm

theorem gf_term (c cx : ℂ) (wo wi ei eo : ℝ) (z : ℂ) :
    Gen.GF.termFreq (Gen.GF.residue c cx wo wi) (Gen.GF.pole ei eo) z
      = c * cx * ((wo : ℂ) + (wi : ℂ)) / (z - ((ei - eo : ℝ) : ℂ)) := by
  simp only [Gen.GF.termFreq, Gen.GF.residue, Gen.GF.pole, ofReal_eq, Complex.ofReal_add]

/-- summing the library's terms over all pairs of eigenstates (outer index n, inner index m) gives
the Lehmann sum -/
theorem gf_sum {ι : Type} [Fintype ι] [DecidableEq ι] (d : EigenData ι) (C CX : Matrix ι ι ℂ)
    (z : ℂ) :
    (∑ n, ∑ m, Gen.GF.termFreq (Gen.GF.residue (C n m) (CX m n) (d.w n) (d.w m))
        (Gen.GF.pole (d.E m) (d.E n)) z) = d.lehmannG C CX z := by
  simp only [gf_term]
  rfl

/-- the library's Matsubara frequency `MatsubaraSpacing * (2n+1)` with `MatsubaraSpacing = iπ/β`
is `i ω_n`.  The spacing is written by hand here: that the source has it is guaranteed by the translator
alone, which raises `TranslateError` otherwise (`tools/translate.py`, `MatsubaraSpacing`); no theorem uses
the generated flag `Gen.GF.spacingIsIPiOverBeta`. -/
theorem gf_matsubara {ι : Type} (d : EigenData ι) (n : ℤ) :
    (Complex.I * (Real.pi : ℂ) / (d.β : ℂ)) * ((Gen.GF.matsubaraOdd n : ℤ) : ℂ)
      = Complex.I * (d.ω n : ℂ) := by
  unfold Gen.GF.matsubaraOdd EigenData.ω
  push_cast
  ring

/-- hence: the value the library's formulas give equals the definition
−∫₀^β ⟨T c(τ)c†⟩ e^{iωτ} -/
theorem gf_equals_definition {ι : Type} [Fintype ι] [DecidableEq ι] (d : EigenData ι)
    (C CX : Matrix ι ι ℂ) (n : ℤ) :
    (∑ a, ∑ b, Gen.GF.termFreq (Gen.GF.residue (C a b) (CX b a) (d.w a) (d.w b))
        (Gen.GF.pole (d.E b) (d.E a))
        ((Complex.I * (Real.pi : ℂ) / (d.β : ℂ)) * ((Gen.GF.matsubaraOdd n : ℤ) : ℂ)))
      = d.Gdef C CX n := by
  rw [gf_matsubara, gf_sum, lehmann_single]

/-- both overflow-avoiding branches of the imaginary-time formula are `tauTerm` -/
theorem gf_tau (res : ℂ) (P τ β : ℝ) : Gen.GF.termTau res P τ β = tauTerm β res P τ := by
  unfold Gen.GF.termTau
  split_ifs with h
  · unfold tauTerm
    simp only [ofReal_eq, expR_eq]
    push_cast
    rfl
  · rw [tauTerm_branch]
    simp only [ofReal_eq, expR_eq]
    push_cast
    rfl

theorem gf_tolerances :
    (Gen.GF.tolCompare : ℝ) = 1e-8 ∧ (Gen.GF.tolNegligible : ℝ) = 1e-8 ∧
      (Gen.GF.tolMatrixElement : ℝ) = 1e-8 := by
  unfold Gen.GF.tolCompare Gen.GF.tolNegligible Gen.GF.tolMatrixElement
  refine ⟨?_, ?_, ?_⟩ <;> norm_num

theorem gf_residueKept (res : ℂ) (tol : ℝ) : Gen.GF.residueKept res tol = true ↔ tol < ‖res‖ := by
  unfold Gen.GF.residueKept
  rw [decide_eq_true_iff, abs_eq]

/-- a resonant term of the library whose resonance test `|Diff| < tol` coincides with `Diff = 0` is
`coeff ·` a bracket of `multiTerm` -/
theorem resTerm_eq {coeff r' r Δ c den : ℂ} {ktol : ℝ} (hk : ‖c‖ < ktol ↔ c = 0)
    (hr : r' = coeff * r) :
    (if ‖c‖ < ktol then r' else coeff * Δ / c) / den
      = coeff * ((if c = 0 then r else Δ / c) / den) := by
  simp only [hk, hr]
  split_ifs <;> ring

/-- the four terms the library creates for one world line, evaluated, are `coeff * multiTerm`
provided the resonance test `|Diff| < tol` coincides with `Diff = 0` (exact idealisation of the
tolerance; `ktol > 0` then gives the "if" direction).  Nothing in the development discharges `h12`,
`h23` for a positive tolerance: what the test changes for nearly resonant world lines is not
accounted for (for χ_AB the analogue is `Spec/SuscTol.lean`) -/
theorem chi4_multiterm (coeff : ℂ) (β Ei Ej Ek El wi wj wk wl : ℝ) (z1 z2 z3 : ℂ) (ktol : ℝ)
    (h12 : ‖z1 + z2 - ((Ej - Ei : ℝ):ℂ) - ((Ek - Ej : ℝ):ℂ)‖ < ktol ↔
      z1 + z2 - ((Ej - Ei : ℝ):ℂ) - ((Ek - Ej : ℝ):ℂ) = 0)
    (h23 : ‖z2 + z3 - ((Ek - Ej : ℝ):ℂ) - ((El - Ek : ℝ):ℂ)‖ < ktol ↔
      z2 + z3 - ((Ek - Ej : ℝ):ℂ) - ((El - Ek : ℝ):ℂ) = 0) :
    let P1 := Gen.Chi4.p1 Ei Ej Ek El; let P2 := Gen.Chi4.p2 Ei Ej Ek El
    let P3 := Gen.Chi4.p3 Ei Ej Ek El
    Gen.Chi4.nonResZ2 (Gen.Chi4.coeffZ2 coeff β wi wj wk wl) P1 P2 P3 z1 z2 z3
    + Gen.Chi4.nonResZ4 (Gen.Chi4.coeffZ4 coeff β wi wj wk wl) P1 P2 P3 z1 z2 z3
    + Gen.Chi4.resZ1Z2 (Gen.Chi4.coeffZ1Z2Res coeff β wi wj wk wl)
        (Gen.Chi4.coeffZ1Z2NonRes coeff β wi wj wk wl)
        (Gen.Chi4.diffZ1Z2 P1 P2 P3 z1 z2 z3) ktol P1 P2 P3 z1 z2 z3
    + Gen.Chi4.resZ2Z3 (Gen.Chi4.coeffZ2Z3Res coeff β wi wj wk wl)
        (Gen.Chi4.coeffZ2Z3NonRes coeff β wi wj wk wl)
        (Gen.Chi4.diffZ2Z3 P1 P2 P3 z1 z2 z3) ktol P1 P2 P3 z1 z2 z3
    = coeff * multiTerm β z1 z2 z3 (Ej - Ei) (Ek - Ej) (El - Ek) wi wj wk wl := by
  intro P1 P2 P3
  simp only [P1, P2, P3, Gen.Chi4.p1, Gen.Chi4.p2, Gen.Chi4.p3, Gen.Chi4.nonResZ2,
    Gen.Chi4.nonResZ4, Gen.Chi4.resZ1Z2, Gen.Chi4.resZ2Z3, Gen.Chi4.coeffZ2, Gen.Chi4.coeffZ4,
    Gen.Chi4.coeffZ1Z2Res, Gen.Chi4.coeffZ1Z2NonRes, Gen.Chi4.coeffZ2Z3Res,
    Gen.Chi4.coeffZ2Z3NonRes, Gen.Chi4.diffZ1Z2, Gen.Chi4.diffZ2Z3, ofReal_eq, abs_eq, multiTerm]
  rw [resTerm_eq h12 (mul_assoc coeff _ _),
    resTerm_eq h23 (r := -((β:ℂ) * (wj:ℂ))) (by ring)]
  push_cast
  ring

theorem chi4_perms :
    Gen.Chi4.permutations3
      = perms3.map (fun p => ([(p.1 0).val, (p.1 1).val, (p.1 2).val], p.2)) := by
  rfl

theorem chi4_freqTable (z1 z2 z3 : ℂ) : Gen.Chi4.freqTable z1 z2 z3 = [z1, z2, -z3] := rfl

theorem chi4_matsubara (n : ℤ) : Gen.Chi4.matsubaraOdd n = 2 * n + 1 := rfl

/-- entries 0, 1, 6, 7 of `permutations4` are the identity, the exchange of the last two, of the
first two, and both: the entries `Gen.Core.aliasPerms` names for an element of the 4-index container and
its aliases (the container proofs do not import this file; `C13.alias_table_entries` states them again) -/
theorem chi4_perms4_entries :
    Gen.Chi4.permutations4[0]? = some ([0,1,2,3], 1) ∧
    Gen.Chi4.permutations4[1]? = some ([0,1,3,2], -1) ∧
    Gen.Chi4.permutations4[6]? = some ([1,0,2,3], -1) ∧
    Gen.Chi4.permutations4[7]? = some ([1,0,3,2], 1) :=
  ⟨rfl, rfl, rfl, rfl⟩

def inversions : List ℕ → ℕ
  | [] => 0
  | a :: l => (l.filter (· < a)).length + inversions l

/-- every entry of the extracted tables `permutations3`, `permutations4` is a permutation of
`{0,1,2}` resp. `{0,1,2,3}` whose recorded sign is its parity `(-1)^(number of inversions)`; the
tables have no repeated entries and 6 resp. 24 entries, i.e. they list all permutations -/
theorem chi4_perms_parity :
    (∀ p ∈ Gen.Chi4.permutations3, p.1.Perm [0,1,2] ∧ p.2 = (-1) ^ inversions p.1) ∧
    Gen.Chi4.permutations3.Nodup ∧ Gen.Chi4.permutations3.length = 6 ∧
    (∀ p ∈ Gen.Chi4.permutations4, p.1.Perm [0,1,2,3] ∧ p.2 = (-1) ^ inversions p.1) ∧
    Gen.Chi4.permutations4.Nodup ∧ Gen.Chi4.permutations4.length = 24 := by
  decide

theorem susc_pole (ei eo : ℝ) : Gen.Susc.pole ei eo = ei - eo := rfl

theorem susc_residue (a b : ℂ) (wo wi : ℝ) :
    Gen.Susc.residue a b wo wi = a * b * ((wo : ℂ) - (wi : ℂ)) := by
  simp only [Gen.Susc.residue, ofReal_eq, Complex.ofReal_sub]

theorem susc_termFreq (res : ℂ) (P : ℝ) (z : ℂ) :
    Gen.Susc.termFreq res P z = -res / (z - (P : ℂ)) := rfl

theorem susc_term (a b : ℂ) (wo wi ei eo : ℝ) (z : ℂ) :
    Gen.Susc.termFreq (Gen.Susc.residue a b wo wi) (Gen.Susc.pole ei eo) z
      = -(a * b * ((wo : ℂ) - (wi : ℂ))) / (z - ((ei - eo : ℝ) : ℂ)) := by
  rw [susc_termFreq, susc_residue, susc_pole]

/-- the extracted zero-pole test `abs(Pole) < ReduceResonanceTolerance` -/
theorem susc_isZeroPole (P rtol : ℝ) : Gen.Susc.isZeroPole P rtol = true ↔ |P| < rtol := by
  unfold Gen.Susc.isZeroPole
  rw [decide_eq_true_iff, absR_eq_abs]

/-- the extracted residue filter `abs(Residue) > MatrixElementTolerance` -/
theorem susc_residueKept (res : ℂ) (tol : ℝ) :
    Gen.Susc.residueKept res tol = true ↔ tol < ‖res‖ := by
  unfold Gen.Susc.residueKept
  rw [decide_eq_true_iff, abs_eq]

theorem susc_tolerances :
    (Gen.Susc.tolResonance : ℝ) = 1 / 10 ^ 8 ∧ (Gen.Susc.tolMatrixElement : ℝ) = 1 / 10 ^ 8 := by
  unfold Gen.Susc.tolResonance Gen.Susc.tolMatrixElement
  constructor <;> norm_num

theorem susc_tolResonance_pos : (0 : ℝ) < Gen.Susc.tolResonance := by
  rw [susc_tolerances.1]; norm_num

theorem susc_zeroPole (a b : ℂ) (wo : ℝ) : Gen.Susc.zeroPoleIncrement a b wo = a * b * (wo : ℂ) :=
  rfl

theorem susc_zeroPoleValue (zpw : ℂ) (β : ℝ) (z : ℂ) :
    Gen.Susc.zeroPoleValue zpw β z = if ‖z‖ < 1e-15 then zpw * (β : ℂ) else 0 := by
  unfold Gen.Susc.zeroPoleValue
  have h : (((1 : ℕ) : ℝ) / ((1000000000000000 : ℕ) : ℝ)) = 1e-15 := by norm_num
  rw [h]
  rfl

/-- both overflow-avoiding branches of the bosonic imaginary-time formula are `suscTauTerm`; no
hypothesis on the pole is needed (for `P = 0` both sides are `_/0 = 0`) -/
theorem susc_tau_all (res : ℂ) (P τ β : ℝ) :
    Gen.Susc.termTau res P τ β = suscTauTerm β res P τ := by
  unfold Gen.Susc.termTau
  split_ifs with h
  · unfold suscTauTerm
    simp only [ofReal_eq, expR_eq]
    push_cast
    rfl
  · rw [suscTauTerm_branch]
    simp only [ofReal_eq, expR_eq]
    push_cast
    rfl

set_option linter.unusedVariables false in
/-- `susc_tau_all` under the hypothesis `P ≠ 0`, which the proof does not use -/
theorem susc_tau (res : ℂ) (P τ β : ℝ) (hP : P ≠ 0) :
    Gen.Susc.termTau res P τ β = suscTauTerm β res P τ := susc_tau_all res P τ β

theorem susc_matsubara (n : ℤ) : Gen.Susc.matsubaraEven n = 2 * n := rfl

theorem susc_disconnected (aveA aveB : ℂ) (β : ℝ) :
    Gen.Susc.disconnectedFreq aveA aveB β = aveA * aveB * (β : ℂ) ∧
      Gen.Susc.disconnectedTau aveA aveB = aveA * aveB :=
  ⟨rfl, rfl⟩

/-- summing the library's terms (non-degenerate pairs) and zero-pole weights (degenerate pairs,
exact degeneracy test) gives the bosonic Lehmann sum, hence the definition
∫₀^β ⟨A(τ)B⟩ e^{iΩτ} -/
theorem susc_sum {ι : Type} [Fintype ι] [DecidableEq ι] (d : EigenData ι) (A B : Matrix ι ι ℂ)
    (k : ℤ) :
    (∑ n, ∑ m, if d.E m = d.E n then
        (if k = 0 then Gen.Susc.zeroPoleIncrement (A n m) (B m n) (d.w n) * (d.β : ℂ) else 0)
      else Gen.Susc.termFreq (Gen.Susc.residue (A n m) (B m n) (d.w n) (d.w m))
        (Gen.Susc.pole (d.E m) (d.E n)) (Complex.I * (d.Ω k : ℂ)))
    = d.suscDef A B k := by
  rw [lehmann_susc]
  unfold EigenData.lehmannSusc
  refine Finset.sum_congr rfl fun n _ => Finset.sum_congr rfl fun m _ => ?_
  simp only [susc_term, susc_zeroPole]
  split_ifs <;> ring

theorem dm_weight (β e e0 : ℝ) : Gen.DM.unnormWeight β e e0 = shiftedWeight β e0 e := rfl

theorem dm_retains (w tol : ℝ) : Gen.DM.retainsState w tol = true ↔ tol < w := by
  unfold Gen.DM.retainsState
  exact decide_eq_true_iff

end Pomerol.Spec.Bridge
