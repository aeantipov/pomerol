/-
  The loops of the thermal-average routines (`Model/Averages.lean`) compute traces with the density
  matrix on the FULL Fock space (property C09).

  Setting.  The theorems quantify over ALL inputs `parts : List (Part ℝ ℂ)` of the model (the vector of
  `DensityMatrixPart`s with their `HamiltonianPart`s) that satisfy the size invariants of the library
  (`WF`: every block has as many Fock states, eigenvalues and weights as the dimension of its matrix
  `H`).  Read off such an input:
    * the block index type `Fin parts.length`, the states of block `b`: `Fin (parts.get b).dim`,
      and the full index type `Idx parts = Σ b, Fin (parts.get b).dim`, an index type of
      `Matrix.blockDiagonal'`, so that `BlockEigen`, `block_unitary`, `block_eigen` of `Spec/Blocks.lean`
      (C03) apply;
    * `Ublk parts b` = the matrix `H` of block `b` after diagonalisation, as a Mathlib matrix
      (`Ublk parts b f s = U f s`: row = Fock index, column = eigenstate), `Vfull parts` = their
      `blockDiagonal'`: the eigenvector matrix on the full Fock space (column `k` = eigenstate `|k⟩`);
    * `wt`, `en`, `fk`: weight, eigenvalue, Fock state of a full index;
    * `rho parts = V diag(w) V†  = Σ_k w_k |k⟩⟨k|`, the density matrix in the Fock basis.
  With `d : EigenData (Idx parts)` and `wt = d.w` this is `rhoF d (Vfull parts)` of `Spec/Gibbs.lean`
  (`rho_eq_rhoF`), so the results read `Tr(ρ_F ·)` with the Gibbs state of C09; the weights themselves
  are kept general because the trace identities do not depend on what they are.
  `Spec/FieldPartSpec.lean` (C10) makes the same construction (`Idx`, `Ublk`, `Vfull`, `fk`) from its own
  data `blocks : List (List ℕ)`, `hpart`.  No lemma relates the two index types, or the stored matrices
  `pfl` of `EAInput` with what `FieldPart.compute` stores (`FieldPart.Stored.rowMajor`).

  The number operators are DEFINED here as diagonal matrices over `Idx parts`:
  `numberOp parts i = diag [bit i of fk k]`, `totalNumberOp parts = diag popcount(fk k)`.  What is proved
  elsewhere, state by state, is that the Jordan-Wigner operators act on a Fock state `f` in this way
  (`Spec/OpAlgebra.lean: opN_sem` for `n_i`, `C05.N_operator` for `N`); NO theorem identifies the
  matrices `numberOp`, `totalNumberOp` with `jwRep`, and nothing here says that the `fk k` list the
  Fock space exactly once: for such parts the identification is entry by entry the two cited facts.
-/
import PomerolModel.Model.Averages
import PomerolModel.Spec.Bridge
import PomerolModel.Spec.Blocks
import PomerolModel.Spec.Rotation
import PomerolModel.Spec.SumLemmas
import PomerolModel.Spec.ListLemmas
import Mathlib.Algebra.BigOperators.Fin
import Mathlib.Data.Fintype.BigOperators
import Mathlib.Data.Matrix.Block
import Mathlib.LinearAlgebra.Matrix.Trace
import Mathlib.Tactic.NormNum.Basic
import Mathlib.Tactic.IntervalCases

namespace Pomerol.Spec.AveragesSpec
open Matrix Pomerol Pomerol.Model Pomerol.Model.Averages Pomerol.Spec Pomerol.Spec.Bridge

theorem loop_sum {M : Type} [AddCommMonoid M] (body : ℕ → M → Except Err M) (g : ℕ → M) :
    ∀ (n k0 : ℕ) (a : M), (∀ k, k0 ≤ k → k < k0 + n → ∀ a, body k a = .ok (a + g k)) →
      loop body n k0 a = .ok (a + ∑ k ∈ Finset.range n, g (k0 + k)) := by
  intro n
  induction n with
  | zero => intro k0 a _; simp [loop]
  | succ n ih =>
    intro k0 a h
    rw [loop, h k0 (le_refl _) (Nat.lt_add_of_pos_right n.succ_pos) a]
    simp only
    rw [ih (k0 + 1) _ fun k h1 h2 => h k (Nat.le_of_succ_le h1) (Nat.add_right_comm k0 1 n ▸ h2),
      Finset.sum_range_succ', add_assoc, add_comm (g k0)]
    simp only [Nat.add_assoc, Nat.add_comm 1, Nat.add_zero]

theorem loop_sum0 {M : Type} [AddCommMonoid M] (body : ℕ → M → Except Err M) (g : ℕ → M) (n : ℕ)
    (h : ∀ k, k < n → ∀ a, body k a = .ok (a + g k)) :
    loop body n 0 0 = .ok (∑ k ∈ Finset.range n, g k) := by
  rw [loop_sum body g n 0 _ fun k _ hk => h k (Nat.zero_add n ▸ hk), zero_add]
  simp only [Nat.zero_add]

theorem sumParts_sum {M : Type} [AddCommMonoid M] (f : Part ℝ ℂ → Except Err M) (g : Part ℝ ℂ → M) :
    ∀ (parts : List (Part ℝ ℂ)) (a : M), (∀ p ∈ parts, f p = .ok (g p)) →
      sumParts f parts a = .ok (a + (parts.map g).sum) := by
  intro parts
  induction parts with
  | nil => intro a _; simp [sumParts]
  | cons p ps ih =>
    intro a h
    rw [sumParts, h p (List.mem_cons_self ..)]
    simp only
    rw [ih _ fun q hq => h q (List.mem_cons_of_mem _ hq), List.map_cons, List.sum_cons, add_assoc]

/-- the size invariants of one block: as many Fock states, eigenvalues and weights as the dimension of
`H` (`StatesClassification::getBlockSize`, `HamiltonianPart::getSize`, constructor of
`DensityMatrixPart`) -/
structure WFPart (p : Part ℝ ℂ) : Prop where
  fock : p.fock.length = p.dim
  energies : p.energies.length = p.dim
  weights : p.weights.length = p.dim

namespace WFPart
variable {p : Part ℝ ℂ} (hp : WFPart p) {s : ℕ} (hs : s < p.dim)
include hp hs

theorem getFockState : p.getFockState s = .ok (p.fock.getD s 0) := by
  unfold Part.getFockState
  have h : s < p.fock.length := hp.fock ▸ hs
  rw [List.getElem?_eq_getElem h, getD_eq_getElem _ 0 h]

theorem getEigenValue : p.getEigenValue s = .ok (p.energies.getD s 0) := by
  unfold Part.getEigenValue
  have h : s < p.energies.length := hp.energies ▸ hs
  rw [List.getElem?_eq_getElem h, getD_eq_getElem _ 0 h]

theorem getWeight : p.getWeight s = .ok (p.weights.getD s 0) := by
  unfold Part.getWeight
  have h : s < p.weights.length := hp.weights ▸ hs
  rw [List.getElem?_eq_getElem h, getD_eq_getElem _ 0 h]

end WFPart

theorem fockLoop_eq (p : Part ℝ ℂ) (hp : WFPart p) (term : ℝ → ℕ → ℝ → ℝ) :
    p.fockLoop term = .ok (∑ s ∈ Finset.range p.dim, ∑ fi ∈ Finset.range p.dim,
      term (p.weights.getD s 0) (p.fock.getD fi 0) (Complex.normSq (p.U fi s))) := by
  unfold Part.fockLoop
  rw [hp.weights]
  refine loop_sum0 _ (fun s => ∑ fi ∈ Finset.range p.dim,
      term (p.weights.getD s 0) (p.fock.getD fi 0) (Complex.normSq (p.U fi s))) _ ?_
  intro s _ a
  simp only
  rw [loop_sum _ (fun fi => term (p.weights.getD s 0) (p.fock.getD fi 0)
      (Complex.normSq (p.U fi s))) p.dim 0 a]
  · simp only [Nat.zero_add]
  · intro fi _ hfi a'
    rw [hp.getFockState (Nat.zero_add p.dim ▸ hfi)]
    simp only [Part.weightAt, Part.getEigenState, Bridge.abs_eq, norm_mul,
      Complex.normSq_eq_norm_sq, sq]

theorem avgEnergy_eq (p : Part ℝ ℂ) (hp : WFPart p) :
    p.avgEnergy = .ok (∑ s ∈ Finset.range p.dim, p.weights.getD s 0 * p.energies.getD s 0) := by
  unfold Part.avgEnergy
  rw [hp.weights]
  refine loop_sum0 _ (fun s => p.weights.getD s 0 * p.energies.getD s 0) _ ?_
  intro s hs a
  rw [hp.getEigenValue hs]
  rfl

section Full
variable (parts : List (Part ℝ ℂ))

def WF : Prop := ∀ p ∈ parts, WFPart p

abbrev Idx : Type := Σ b : Fin parts.length, Fin (parts.get b).dim

def Ublk (b : Fin parts.length) : Matrix (Fin (parts.get b).dim) (Fin (parts.get b).dim) ℂ :=
  Matrix.of fun f s => (parts.get b).U f s

def Vfull : Matrix (Idx parts) (Idx parts) ℂ := blockDiagonal' (Ublk parts)

def wt (k : Idx parts) : ℝ := (parts.get k.1).weights.getD k.2 0
def en (k : Idx parts) : ℝ := (parts.get k.1).energies.getD k.2 0
def fk (k : Idx parts) : ℕ := (parts.get k.1).fock.getD k.2 0
def nm (k : Idx parts) : ℕ := (parts.get k.1).nmodes

noncomputable def rho : Matrix (Idx parts) (Idx parts) ℂ :=
  Vfull parts * diagonal (fun k => (wt parts k : ℂ)) * (Vfull parts)ᴴ

theorem rho_eq_rhoF (d : EigenData (Idx parts)) (hw : ∀ k, wt parts k = d.w k) :
    rho parts = rhoF d (Vfull parts) := by
  unfold rho rhoF EigenData.ρ
  simp only [hw]

/-- the library's formula for a Fock-diagonal observable `x` written over the FULL Fock space:
`Σ_k w_k Σ_f x(f) |V_{fk}|²` -/
noncomputable def diagValue (x : Idx parts → ℝ) : ℝ :=
  ∑ k, wt parts k * ∑ f, x f * Complex.normSq (Vfull parts f k)

theorem diagValue_is_trace (x : Idx parts → ℝ) :
    ((diagValue parts x : ℝ) : ℂ) = (rho parts * diagonal (fun f => (x f : ℂ))).trace :=
  trace_diag_general (Vfull parts) (wt parts) x

theorem sum_idx {M : Type} [AddCommMonoid M] (g : Part ℝ ℂ → ℕ → M) :
    ∑ k : Idx parts, g (parts.get k.1) k.2
      = (parts.map fun p => ∑ s ∈ Finset.range p.dim, g p s).sum := by
  rw [Fintype.sum_sigma, ← Fin.sum_univ_fun_getElem]
  refine Finset.sum_congr rfl fun b _ => ?_
  rw [Finset.sum_range]
  rfl

/-- because `V` is block diagonal only the Fock states of the eigenstate's own block contribute -/
theorem dm_fockLoop (hwf : WF parts) (term : Part ℝ ℂ → ℝ → ℕ → ℝ → ℝ) (xf : Part ℝ ℂ → ℕ → ℝ)
    (hterm : ∀ p w f a, term p w f a = w * xf p f * a) :
    sumParts (fun p => p.fockLoop (term p)) parts 0
      = .ok (diagValue parts fun k => xf (parts.get k.1) (fk parts k)) := by
  rw [sumParts_sum _ _ parts 0 (fun p hp => fockLoop_eq p (hwf p hp) (term p)), zero_add,
    ← sum_idx parts (fun p s => ∑ fi ∈ Finset.range p.dim,
      term p (p.weights.getD s 0) (p.fock.getD fi 0) (Complex.normSq (p.U fi s)))]
  refine congrArg _ (Finset.sum_congr rfl fun k _ => ?_)
  rw [Vfull, sum_blockDiagonal'_col (Ublk parts)
      (fun f z => xf (parts.get f.1) (fk parts f) * Complex.normSq z)
      (fun f => by rw [Complex.normSq_zero, mul_zero]), Finset.mul_sum, Finset.sum_range]
  refine Finset.sum_congr rfl fun f _ => ?_
  rw [hterm, mul_assoc]
  rfl

/-- `n_i` in the Fock basis: the diagonal Jordan-Wigner number operator, `⟨f|n_i|f⟩ = [bit i of f]` -/
def numberOp (i : ℕ) : Matrix (Idx parts) (Idx parts) ℂ :=
  diagonal fun k => if (fk parts k).testBit i then 1 else 0

/-- `N = Σ_i n_i` in the Fock basis: `⟨f|N|f⟩ = popcount(f)` -/
def totalNumberOp : Matrix (Idx parts) (Idx parts) ℂ :=
  diagonal fun k => ((popCount (fk parts k) (nm parts k) : ℕ) : ℂ)

theorem ofBool_eq (b : Bool) : (Part.ofBool b : ℝ) = if b then 1 else 0 := by
  cases b <;> simp [Part.ofBool]

/-- the value `getAverageOccupancy(i)` returns, as a sum over the full Fock space:
`Σ_k w_k Σ_f |V_{fk}|² [bit i of f]` -/
noncomputable def occValue (i : ℕ) : ℝ :=
  diagValue parts fun k => if (fk parts k).testBit i then 1 else 0
noncomputable def totalOccValue : ℝ :=
  diagValue parts fun k => ((popCount (fk parts k) (nm parts k) : ℕ) : ℝ)
noncomputable def doubleOccValue (i j : ℕ) : ℝ :=
  diagValue parts fun k => if (fk parts k).testBit i ∧ (fk parts k).testBit j then 1 else 0
noncomputable def energyValue : ℝ := ∑ k, wt parts k * en parts k

/-- **`DensityMatrix::getAverageOccupancy(i)` returns `Tr(ρ n_i)`** (and does not throw). -/
theorem occupancy_is_trace (hwf : WF parts) (i : ℕ) :
    DM.avgOccupancy parts i = .ok (occValue parts i) ∧
    ((occValue parts i : ℝ) : ℂ) = (rho parts * numberOp parts i).trace := by
  constructor
  · exact dm_fockLoop parts hwf (fun _ w f a => w * Part.ofBool (f.testBit i) * a)
      (fun _ f => if f.testBit i then 1 else 0) (fun p w f a => by rw [ofBool_eq])
  · unfold occValue numberOp
    rw [diagValue_is_trace]
    congr 3
    funext k
    split_ifs <;> simp

/-- **`DensityMatrix::getAverageOccupancy()` returns `Tr(ρ N)`.** -/
theorem total_occupancy_is_trace (hwf : WF parts) :
    DM.avgOccupancyTotal parts = .ok (totalOccValue parts) ∧
    ((totalOccValue parts : ℝ) : ℂ) = (rho parts * totalNumberOp parts).trace := by
  constructor
  · exact dm_fockLoop parts hwf (fun p w f a => w * ((popCount f p.nmodes : ℕ) : ℝ) * a)
      (fun p f => ((popCount f p.nmodes : ℕ) : ℝ)) (fun p w f a => rfl)
  · unfold totalOccValue totalNumberOp
    rw [diagValue_is_trace]
    congr 3

/-- **`DensityMatrix::getAverageDoubleOccupancy(i,j)` returns `Tr(ρ n_i n_j)`.** -/
theorem double_occupancy_is_trace (hwf : WF parts) (i j : ℕ) :
    DM.avgDoubleOccupancy parts i j = .ok (doubleOccValue parts i j) ∧
    ((doubleOccValue parts i j : ℝ) : ℂ)
      = (rho parts * (numberOp parts i * numberOp parts j)).trace := by
  constructor
  · refine dm_fockLoop parts hwf
      (fun _ w f a => w * Part.ofBool (f.testBit i) * Part.ofBool (f.testBit j) * a)
      (fun _ f => if f.testBit i ∧ f.testBit j then 1 else 0) (fun p w f a => ?_)
    rw [ofBool_eq, ofBool_eq]
    cases f.testBit i <;> cases f.testBit j <;> simp
  · unfold doubleOccValue numberOp
    rw [diagValue_is_trace, diagonal_mul_diagonal]
    congr 3
    funext k
    cases (fk parts k).testBit i <;> cases (fk parts k).testBit j <;> simp

theorem dm_avgEnergy (hwf : WF parts) : DM.avgEnergy parts = .ok (energyValue parts) := by
  unfold DM.avgEnergy
  rw [sumParts_sum _ _ parts 0 (fun p hp => avgEnergy_eq p (hwf p hp)), zero_add,
    ← sum_idx parts (fun p s => p.weights.getD s 0 * p.energies.getD s 0)]
  rfl

/-- **`DensityMatrix::getAverageEnergy()` returns `Tr(ρ H)`** for the block-diagonal Hamiltonian
`H = blockDiagonal' Hb` whose blocks the stored eigenvectors and eigenvalues diagonalise (the per-block
post-condition of the eigen-solver, `BlockEigen` of C03) -/
theorem energy_is_trace_blocks (hwf : WF parts)
    (Hb : ∀ b : Fin parts.length, Matrix (Fin (parts.get b).dim) (Fin (parts.get b).dim) ℂ)
    (h : BlockEigen (m := fun b : Fin parts.length => Fin (parts.get b).dim) Hb (Ublk parts)
      (fun b i => en parts ⟨b, i⟩)) :
    DM.avgEnergy parts = .ok (energyValue parts) ∧
    ((energyValue parts : ℝ) : ℂ) = (rho parts * blockDiagonal' Hb).trace := by
  -- stated first: elaborated as arguments, against the types `trace_energy_general` expects, the two
  -- facts send the unifier into a timeout
  have h1 := (block_unitary (Ublk parts) h.unitary).1
  have h2 := block_eigen h
  exact ⟨dm_avgEnergy parts hwf, trace_energy_general (Vfull parts) _ (wt parts) (en parts) h1 h2⟩

end Full

theorem ea_compute_eq (A : GFPart.SpMat ℂ) (p : Part ℝ ℂ) (hp : WFPart p) (hA : A.length = p.dim) :
    EA.compute A p
      = .ok (∑ k ∈ Finset.range p.dim, EA.coeff A k k * ((p.weights.getD k 0 : ℝ) : ℂ)) := by
  unfold EA.compute
  rw [hA]
  refine loop_sum0 _ (fun k => EA.coeff A k k * ((p.weights.getD k 0 : ℝ) : ℂ)) _ ?_
  intro k hk a
  rw [hp.getWeight hk]
  rfl

theorem prepareLoop_sum (pfl : ℕ → GFPart.SpMat ℂ) (dm : List (Part ℝ ℂ)) (g : ℕ → ℂ)
    (hret : ∀ p ∈ dm, p.retained = true) :
    ∀ (mapping : List (ℕ × ℕ)) (acc : ℂ),
      (∀ lr ∈ mapping, lr.1 = lr.2 →
        ∃ h : lr.1 < dm.length, EA.compute (pfl lr.1) dm[lr.1] = .ok (g lr.1)) →
      EA.prepareLoop pfl dm mapping acc
        = .ok (acc + (mapping.map fun lr => if lr.1 = lr.2 then g lr.1 else 0).sum) := by
  intro mapping
  induction mapping with
  | nil => intro acc _; simp [EA.prepareLoop]
  | cons lr rest ih =>
    intro acc h
    have hrest := fun lr hlr => h lr (List.mem_cons_of_mem _ hlr)
    rw [EA.prepareLoop, List.map_cons, List.sum_cons]
    by_cases hlr : lr.1 = lr.2
    · obtain ⟨hlt, hc⟩ := h lr List.mem_cons_self hlr
      rw [if_pos hlr, List.getElem?_eq_getElem hlt]
      simp only
      rw [if_pos (hret _ (List.getElem_mem hlt)), hc]
      simp only
      rw [ih _ hrest, if_pos hlr, add_assoc]
    · rw [if_neg hlr, ih _ hrest, if_neg hlr, zero_add]

section EAFull
variable (parts : List (Part ℝ ℂ))

/-- What `EnsembleAverage::prepare` is given, related to the matrix `A` of the operator in the
eigenbasis (indexed by (block, inner index) on both sides):
* `mapping` (the left view of the block bimap, pairs `(left block, right block)`) has no repeated pair
  and only mentions existing blocks;
* `support`: EVERY non-zero matrix element `A k l` lies in a listed block pair.  Since the bimap is
  built as `{(mapsTo r, r)}` with ONE left block per right block, this is precisely the single-target
  property of C07 ("the operator maps a block into a single block", `C07.quadratic_single_target`);
  see `support_of_single_target`;
* for every listed DIAGONAL pair `(b,b)` the stored row-major matrix of the part has one row per state
  of the block and its diagonal coefficients are those of `A` (exact idealisation of the tolerance
  pruning `sparseView(MatrixElementTolerance)`). -/
structure EAInput (mapping : List (ℕ × ℕ)) (pfl : ℕ → GFPart.SpMat ℂ)
    (A : Matrix (Idx parts) (Idx parts) ℂ) : Prop where
  nodup : mapping.Nodup
  inRange : ∀ lr ∈ mapping, lr.1 < parts.length ∧ lr.2 < parts.length
  support : ∀ k l : Idx parts, A k l ≠ 0 → ((k.1 : ℕ), (l.1 : ℕ)) ∈ mapping
  rows : ∀ b : Fin parts.length, ((b : ℕ), (b : ℕ)) ∈ mapping →
    (pfl b).length = (parts.get b).dim
  entries : ∀ b : Fin parts.length, ((b : ℕ), (b : ℕ)) ∈ mapping →
    ∀ i : Fin (parts.get b).dim, EA.coeff (pfl b) i i = A ⟨b, i⟩ ⟨b, i⟩

/-- the `support` hypothesis from the single-target property: `tgt r` = `mapsTo(r)` (the left block of
right block `r`, if any), the mapping lists all pairs `(tgt r, r)`, and `A` has matrix elements only
from block `r` into block `tgt r` -/
theorem support_of_single_target (mapping : List (ℕ × ℕ)) (A : Matrix (Idx parts) (Idx parts) ℂ)
    (tgt : Fin parts.length → Option (Fin parts.length))
    (hmap : ∀ r l, tgt r = some l → ((l : ℕ), (r : ℕ)) ∈ mapping)
    (hsingle : ∀ k l : Idx parts, A k l ≠ 0 → tgt l.1 = some k.1) :
    ∀ k l : Idx parts, A k l ≠ 0 → ((k.1 : ℕ), (l.1 : ℕ)) ∈ mapping :=
  fun k l h => hmap l.1 k.1 (hsingle k l h)

noncomputable def blockValue (A : Matrix (Idx parts) (Idx parts) ℂ) (b : ℕ) : ℂ :=
  if h : b < parts.length then
    ∑ i : Fin (parts.get ⟨b, h⟩).dim, A ⟨⟨b, h⟩, i⟩ ⟨⟨b, h⟩, i⟩ * (wt parts ⟨⟨b, h⟩, i⟩ : ℂ)
  else 0

theorem blockValue_fin (A : Matrix (Idx parts) (Idx parts) ℂ) (b : Fin parts.length) :
    blockValue parts A b = ∑ i : Fin (parts.get b).dim, A ⟨b, i⟩ ⟨b, i⟩ * (wt parts ⟨b, i⟩ : ℂ) := by
  unfold blockValue
  rw [dif_pos b.2]

/-- **`EnsembleAverage::prepare` returns `Σ_k A_kk w_k` over ALL eigenstates `k`** when every block is
retained and the operator has the single-target property. -/
theorem ensemble_average_eq_sum (hwf : WF parts) (hret : ∀ p ∈ parts, p.retained = true)
    (mapping : List (ℕ × ℕ)) (pfl : ℕ → GFPart.SpMat ℂ) (A : Matrix (Idx parts) (Idx parts) ℂ)
    (h : EAInput parts mapping pfl A) :
    EA.prepare mapping pfl parts = .ok (∑ k, A k k * (wt parts k : ℂ)) := by
  unfold EA.prepare
  rw [prepareLoop_sum pfl parts (blockValue parts A) hret mapping 0, zero_add]
  · refine congrArg _ ?_
    -- the blocks `b` are coded by the pairs `(b, b)`
    let e : Fin parts.length ↪ ℕ × ℕ :=
      ⟨fun b => (b, b), fun a b hab => Fin.ext (Prod.mk.inj hab).1⟩
    rw [sum_list_eq_sum_coded e mapping h.nodup, Fintype.sum_sigma]
    · exact Finset.sum_congr rfl fun b _ => (if_pos rfl).trans (blockValue_fin parts A b)
    · intro lr hlr hne
      exact if_neg fun hd => hne ⟨⟨lr.1, (h.inRange lr hlr).1⟩, Prod.ext rfl hd⟩
    · intro b hb
      -- an unlisted block has `A_bb = 0`
      refine (if_pos rfl).trans ((blockValue_fin parts A b).trans ?_)
      exact Finset.sum_eq_zero fun i _ => by
        rw [by_contra fun hne => hb (h.support ⟨b, i⟩ ⟨b, i⟩ hne), zero_mul]
  · rintro ⟨l, r⟩ hlr heq
    simp only at heq
    subst heq
    have hlt : l < parts.length := (h.inRange _ hlr).1
    refine ⟨hlt, ?_⟩
    simp only
    have hget : parts[l] = parts.get ⟨l, hlt⟩ := rfl
    rw [ea_compute_eq _ _ (hwf _ (List.getElem_mem hlt)) (h.rows ⟨l, hlt⟩ hlr), hget,
      blockValue_fin parts A ⟨l, hlt⟩, Finset.sum_range]
    refine congrArg _ (Finset.sum_congr rfl fun i _ => ?_)
    rw [h.entries ⟨l, hlt⟩ hlr i]
    rfl

/-- **… and this is `Tr(ρ A_F)`**, `A_F` the matrix of the operator in the Fock basis
(`A = V† A_F V`). -/
theorem ensemble_average_is_trace (hwf : WF parts) (hret : ∀ p ∈ parts, p.retained = true)
    (mapping : List (ℕ × ℕ)) (pfl : ℕ → GFPart.SpMat ℂ) (AF : Matrix (Idx parts) (Idx parts) ℂ)
    (h : EAInput parts mapping pfl ((Vfull parts)ᴴ * AF * Vfull parts)) :
    EA.prepare mapping pfl parts
        = .ok (∑ k, ((Vfull parts)ᴴ * AF * Vfull parts) k k * (wt parts k : ℂ)) ∧
    (∑ k, ((Vfull parts)ᴴ * AF * Vfull parts) k k * (wt parts k : ℂ))
        = (rho parts * AF).trace :=
  ⟨ensemble_average_eq_sum parts hwf hret mapping pfl _ h,
    trace_operator_general (Vfull parts) AF (wt parts)⟩

end EAFull

/-! ## the hypotheses are satisfiable -/

/-- the columns of `H` are orthonormal (what the eigen-solver guarantees), on the level of the model -/
def ColumnsOrthonormal (p : Part ℝ ℂ) : Prop :=
  ∀ s, s < p.dim → ∀ t, t < p.dim →
    ∑ f ∈ Finset.range p.dim, (starRingEnd ℂ) (p.U f s) * p.U f t = if s = t then 1 else 0

/-- `Ublk parts b` is `partU (parts.get b)` -/
def partU (p : Part ℝ ℂ) : Matrix (Fin p.dim) (Fin p.dim) ℂ := Matrix.of fun f s => p.U f s

theorem columnsOrthonormal_iff (p : Part ℝ ℂ) :
    ColumnsOrthonormal p ↔ (partU p)ᴴ * partU p = 1 := by
  rw [← Matrix.ext_iff, Fin.forall_iff]
  refine forall₂_congr fun s hs => ?_
  rw [Fin.forall_iff]
  refine forall₂_congr fun t ht => ?_
  rw [Matrix.mul_apply, Matrix.one_apply, Finset.sum_range]
  simp only [Fin.mk.injEq]
  rfl

/-- `(Uᵀ)ᴴ Uᵀ = (U Uᴴ)ᵀ`: the rows of a square matrix with orthonormal columns are orthonormal -/
theorem columnsOrthonormal_transposeU (p : Part ℝ ℂ) :
    ColumnsOrthonormal p.transposeU ↔ ColumnsOrthonormal p := by
  rw [columnsOrthonormal_iff, columnsOrthonormal_iff, ← mul_eq_one_comm (a := partU p),
    ← transpose_eq_one (M := partU p * (partU p)ᴴ), transpose_mul]
  rfl

theorem Ublk_unitary (parts : List (Part ℝ ℂ)) (h : ∀ p ∈ parts, ColumnsOrthonormal p)
    (b : Fin parts.length) : (Ublk parts b)ᴴ * Ublk parts b = 1 :=
  (columnsOrthonormal_iff _).mp (h _ (List.get_mem parts b))

theorem blockEigen_reconstruct (parts : List (Part ℝ ℂ))
    (hU : ∀ b, (Ublk parts b)ᴴ * Ublk parts b = 1) :
    BlockEigen (m := fun b : Fin parts.length => Fin (parts.get b).dim)
      (fun b => Ublk parts b * diagonal (fun i => (en parts ⟨b, i⟩ : ℂ)) * (Ublk parts b)ᴴ)
      (Ublk parts) (fun b i => en parts ⟨b, i⟩) where
  unitary := hU
  eigen := fun b => by
    rw [Matrix.mul_assoc, hU b, Matrix.mul_one]

section
variable (parts : List (Part ℝ ℂ))

def gibbs (β : ℝ) (hβ : 0 < β) : EigenData (Idx parts) := ⟨β, hβ, en parts⟩
end

theorem gibbs_of_shifted (parts : List (Part ℝ ℂ)) (β : ℝ) (hβ : 0 < β) (e0 Z : ℝ)
    (hw : ∀ p ∈ parts, ∀ s, s < p.dim →
      p.weights.getD s 0 = Gen.DM.unnormWeight β (p.energies.getD s 0) e0 / Z)
    (hZ : Z = (parts.map fun p => ∑ s ∈ Finset.range p.dim,
      Gen.DM.unnormWeight β (p.energies.getD s 0) e0).sum)
    (k : Idx parts) : wt parts k = (gibbs parts β hβ).w k := by
  have : Nonempty (Idx parts) := ⟨k⟩
  rw [← shifted_normalised (gibbs parts β hβ) e0 k]
  have hZ' : shiftedZ (gibbs parts β hβ) e0 = Z := by
    rw [hZ, ← sum_idx parts (fun p s => Gen.DM.unnormWeight β (p.energies.getD s 0) e0)]
    rfl
  rw [hZ']
  exact hw _ (List.get_mem parts k.1) k.2 k.2.2

theorem EAInput_fock (parts : List (Part ℝ ℂ)) (hV : (Vfull parts)ᴴ * Vfull parts = 1)
    (mapping : List (ℕ × ℕ)) (pfl : ℕ → GFPart.SpMat ℂ) (A : Matrix (Idx parts) (Idx parts) ℂ)
    (h : EAInput parts mapping pfl A) :
    EAInput parts mapping pfl
      ((Vfull parts)ᴴ * (Vfull parts * A * (Vfull parts)ᴴ) * Vfull parts) := by
  have := rotate_back (Vfull parts)ᴴ A (by rwa [conjTranspose_conjTranspose])
  rw [conjTranspose_conjTranspose] at this
  rwa [this]

theorem loop_collect (body : ℕ → List ℝ × ℝ → Except Err (List ℝ × ℝ)) (w : ℕ → ℝ) :
    ∀ (n k0 : ℕ) (st : List ℝ × ℝ),
      (∀ k, k0 ≤ k → k < k0 + n → ∀ st, body k st = .ok (st.1 ++ [w k], st.2 + w k)) →
      loop body n k0 st
        = .ok (st.1 ++ (List.range' k0 n).map w, st.2 + ((List.range' k0 n).map w).sum) := by
  intro n
  induction n with
  | zero => intro k0 st _; simp [loop]
  | succ n ih =>
    intro k0 st h
    rw [loop, h k0 (le_refl _) (Nat.lt_add_of_pos_right n.succ_pos) st]
    simp only
    rw [ih (k0 + 1) _ fun k h1 h2 => h k (Nat.le_of_succ_le h1) (Nat.add_right_comm k0 1 n ▸ h2)]
    simp only [List.range'_succ, List.map_cons, List.sum_cons, List.append_assoc,
      List.singleton_append, add_assoc]

theorem range'_map_getD (l : List ℝ) (f : ℝ → ℝ) :
    (List.range' 0 l.length).map (fun s => f (l.getD s 0)) = l.map f := by
  apply List.ext_getElem
  · rw [List.length_map, List.length_map, List.length_range']
  · intro i h1 h2
    rw [List.length_map] at h2
    rw [List.getElem_map, List.getElem_map, List.getElem_range', Nat.zero_add, Nat.one_mul,
      getD_eq_getElem _ 0 h2]

noncomputable def unnormWeights (β e0 : ℝ) (p : Part ℝ ℂ) : List ℝ :=
  p.energies.map fun e => Gen.DM.unnormWeight β e e0

theorem computeUnnormalized_eq (β e0 : ℝ) (p : Part ℝ ℂ) (hp : WFPart p) :
    p.computeUnnormalized β e0
      = .ok ({ p with weights := unnormWeights β e0 p }, (unnormWeights β e0 p).sum) := by
  unfold Part.computeUnnormalized
  rw [loop_collect _ (fun s => Gen.DM.unnormWeight β (p.energies.getD s 0) e0)]
  · simp only [List.nil_append, zero_add]
    rw [hp.weights, ← hp.energies, range'_map_getD p.energies (fun e => Gen.DM.unnormWeight β e e0)]
    rfl
  · intro s _ hs st
    have hs' : s < p.weights.length := Nat.zero_add p.weights.length ▸ hs
    rw [hp.getEigenValue (hp.weights ▸ hs')]

theorem computeUnnormalizedAll_eq (β e0 : ℝ) :
    ∀ (parts done : List (Part ℝ ℂ)) (Z : ℝ), (∀ p ∈ parts, WFPart p) →
      DM.computeUnnormalizedAll β e0 parts done Z
        = .ok (done ++ parts.map (fun p => { p with weights := unnormWeights β e0 p }),
            Z + (parts.map fun p => (unnormWeights β e0 p).sum).sum) := by
  intro parts
  induction parts with
  | nil => intro done Z _; simp [DM.computeUnnormalizedAll]
  | cons p ps ih =>
    intro done Z h
    rw [DM.computeUnnormalizedAll, computeUnnormalized_eq β e0 p (h p (List.mem_cons_self ..))]
    simp only
    rw [ih _ _ (fun q hq => h q (List.mem_cons_of_mem _ hq))]
    simp only [List.map_cons, List.sum_cons, List.append_assoc, List.singleton_append, add_assoc]

/-- the partition function the library divides by (relative to the reference energy `e0`) -/
noncomputable def modelZ (β e0 : ℝ) (parts : List (Part ℝ ℂ)) : ℝ :=
  (parts.map fun p => (unnormWeights β e0 p).sum).sum

/-- what `DensityMatrix::compute` leaves in the parts -/
noncomputable def computed (β e0 : ℝ) (parts : List (Part ℝ ℂ)) : List (Part ℝ ℂ) :=
  parts.map fun p =>
    { p with weights := (unnormWeights β e0 p).map (· / modelZ β e0 parts) }

theorem compute_eq (β e0 : ℝ) (parts : List (Part ℝ ℂ)) (hwf : WF parts) :
    DM.compute β e0 parts = .ok (computed β e0 parts) := by
  unfold DM.compute
  rw [computeUnnormalizedAll_eq β e0 parts [] 0 hwf]
  simp only [List.nil_append, zero_add, List.map_map]
  rfl

theorem computed_wf (β e0 : ℝ) (parts : List (Part ℝ ℂ)) (hwf : WF parts) :
    WF (computed β e0 parts) := by
  intro q hq
  unfold computed at hq
  rw [List.mem_map] at hq
  obtain ⟨p, hp, rfl⟩ := hq
  have := hwf p hp
  exact ⟨this.fock, this.energies, by simp [unnormWeights, this.energies]⟩

theorem sum_map_eq_range (l : List ℝ) (f : ℝ → ℝ) (n : ℕ) (h : l.length = n) :
    (l.map f).sum = ∑ s ∈ Finset.range n, f (l.getD s 0) := by
  rw [← h, ← sum_map_range, List.range_eq_range', range'_map_getD]

theorem compute_gibbs (β : ℝ) (hβ : 0 < β) (e0 : ℝ) (parts : List (Part ℝ ℂ)) (hwf : WF parts)
    (k : Idx (computed β e0 parts)) :
    wt (computed β e0 parts) k = (gibbs (computed β e0 parts) β hβ).w k := by
  refine gibbs_of_shifted _ β hβ e0 (modelZ β e0 parts) ?_ ?_ k
  · intro q hq s hs
    unfold computed at hq
    rw [List.mem_map] at hq
    obtain ⟨p, hp, rfl⟩ := hq
    have hlt : s < p.energies.length := by rw [(hwf p hp).energies]; exact hs
    simp [unnormWeights, List.getD_eq_getElem?_getD, hlt]
  · unfold modelZ computed
    rw [List.map_map]
    congr 1
    apply List.map_congr_left
    intro p hp
    exact sum_map_eq_range p.energies _ p.dim (hwf p hp).energies

/-! ## a concrete system: 3 modes, the vacuum block `{000}` and the one-particle block
`{001, 010, 100}`; the eigenvectors of the latter are the columns of the orthogonal matrix
`R₁₂(3-4-5) · R₂₃(3-4-5)`; weights `1/4 | 3/8, 1/4, 1/8` (normalised, non-uniform); the energies are
`−log w`, so that the weights ARE the Gibbs weights at `β = 1` (`exParts_gibbs`) -/

noncomputable def exUr : ℕ → ℕ → ℝ
  | 0, 0 => 3/5 | 0, 1 => -12/25 | 0, 2 => 16/25
  | 1, 0 => 4/5 | 1, 1 => 9/25  | 1, 2 => -12/25
  | 2, 0 => 0   | 2, 1 => 4/5   | 2, 2 => 3/5
  | _, _ => 0

noncomputable def exPart : Part ℝ ℂ :=
  { nmodes := 3, fock := [1, 2, 4], dim := 3, U := fun r c => ((exUr r c : ℝ) : ℂ),
    energies := [-Real.log (3/8), -Real.log (1/4), -Real.log (1/8)], weights := [3/8, 1/4, 1/8], retained := true }
noncomputable def exVac : Part ℝ ℂ :=
  { nmodes := 3, fock := [0], dim := 1, U := fun _ _ => 1, energies := [-Real.log (1/4)],
    weights := [1/4],
    retained := true }
noncomputable def exParts : List (Part ℝ ℂ) := [exVac, exPart]
/-- the same system with the two indices of `H` confused in the one-particle block -/
noncomputable def exPartsT : List (Part ℝ ℂ) := [exVac, exPart.transposeU]

theorem exPartT_wf : WFPart exPart.transposeU := ⟨rfl, rfl, rfl⟩
theorem exPart_wf : WFPart exPart := ⟨rfl, rfl, rfl⟩
theorem exVac_wf : WFPart exVac := ⟨rfl, rfl, rfl⟩

theorem exParts_wf : WF exParts := by
  intro p hp
  rcases List.mem_pair.mp hp with rfl | rfl
  exacts [exVac_wf, exPart_wf]

theorem exParts_retained : ∀ p ∈ exParts, p.retained = true := by
  intro p hp
  rcases List.mem_pair.mp hp with rfl | rfl <;> rfl

/-- a weight `w > 0` is the unnormalised weight of the energy `-log w` at `β = 1` with reference `0` -/
theorem unnormWeight_neg_log {w : ℝ} (hw : 0 < w) : Gen.DM.unnormWeight 1 (-Real.log w) 0 = w := by
  rw [Bridge.dm_weight]
  simp [shiftedWeight, Real.exp_log hw]

theorem exParts_gibbs (k : Idx exParts) : wt exParts k = (gibbs exParts 1 one_pos).w k := by
  have h38 := unnormWeight_neg_log (w := 3/8) (by norm_num)
  have h14 := unnormWeight_neg_log (w := 1/4) (by norm_num)
  have h18 := unnormWeight_neg_log (w := 1/8) (by norm_num)
  -- reference energy `0`; the unnormalised weights already sum to `Z = 1`
  refine gibbs_of_shifted exParts 1 one_pos 0 1 ?_ ?_ k
  · intro p hp s hs
    rcases List.mem_pair.mp hp with rfl | rfl
    · simp only [exVac] at hs ⊢
      interval_cases s
      simp only [List.getD_cons_zero, h14, div_one]
    · simp only [exPart] at hs ⊢
      interval_cases s <;>
        simp only [List.getD_cons_zero, List.getD_cons_succ, h38, h14, h18, div_one]
  · simp only [exParts, exVac, exPart, List.map_cons, List.map_nil, List.sum_cons, List.sum_nil,
      Finset.sum_range_succ, Finset.sum_range_zero, List.getD_cons_zero, List.getD_cons_succ,
      h38, h14, h18]
    norm_num

/- The entries once, by `rfl`: `simp only [exUr]` goes through the `match` at every occurrence, and a
single occurrence costs a third of this whole table to check. -/
theorem exUr_rows : (exUr 0 0 = 3/5 ∧ exUr 0 1 = -12/25 ∧ exUr 0 2 = 16/25) ∧
    (exUr 1 0 = 4/5 ∧ exUr 1 1 = 9/25 ∧ exUr 1 2 = -12/25) ∧
    (exUr 2 0 = 0 ∧ exUr 2 1 = 4/5 ∧ exUr 2 2 = 3/5) :=
  ⟨⟨rfl, rfl, rfl⟩, ⟨rfl, rfl, rfl⟩, ⟨rfl, rfl, rfl⟩⟩

theorem exUr_orthogonal (s t : ℕ) (hs : s < 3) (ht : t < 3) :
    exUr 0 s * exUr 0 t + exUr 1 s * exUr 1 t + exUr 2 s * exUr 2 t = if s = t then 1 else 0 := by
  interval_cases s <;> interval_cases t <;> simp only [exUr_rows] <;> norm_num

theorem exVac_orthonormal : ColumnsOrthonormal exVac := by
  intro s hs t ht
  obtain rfl : s = 0 := Nat.lt_one_iff.mp hs
  obtain rfl : t = 0 := Nat.lt_one_iff.mp ht
  simp only [exVac, Finset.sum_range_one, RingHom.map_one, mul_one, if_true]

theorem exPart_orthonormal : ColumnsOrthonormal exPart := by
  intro s hs t ht
  -- the real identity `exUr_orthogonal`, cast to ℂ
  have h := congrArg Complex.ofReal (exUr_orthogonal s t hs ht)
  simp only [exPart, Finset.sum_range_succ, Finset.sum_range_zero, zero_add, Complex.conj_ofReal]
  simpa only [Complex.ofReal_add, Complex.ofReal_mul, apply_ite Complex.ofReal, Complex.ofReal_one,
    Complex.ofReal_zero] using h

theorem exParts_orthonormal : ∀ p ∈ exParts, ColumnsOrthonormal p := by
  intro p hp
  rcases List.mem_pair.mp hp with rfl | rfl
  exacts [exVac_orthonormal, exPart_orthonormal]

theorem exPartsT_orthonormal : ∀ p ∈ exPartsT, ColumnsOrthonormal p := by
  intro p hp
  rcases List.mem_pair.mp hp with rfl | rfl
  exacts [exVac_orthonormal, (columnsOrthonormal_transposeU _).mpr exPart_orthonormal]

theorem sumParts_pair (f : Part ℝ ℂ → Except Err ℝ) {p q : Part ℝ ℂ} {u v : ℝ}
    (hp : f p = .ok u) (hq : f q = .ok v) : sumParts f [p, q] 0 = .ok (u + v) := by
  rw [sumParts, hp]
  simp only
  rw [sumParts, hq]
  simp only [sumParts, zero_add]

theorem exFock_popCount :
    popCount 0 3 = 0 ∧ popCount 1 3 = 1 ∧ popCount 2 3 = 1 ∧ popCount 4 3 = 1 := by
  decide

theorem exFock_bit0 : Nat.testBit 1 0 = true ∧ Nat.testBit 2 0 = false ∧ Nat.testBit 4 0 = false :=
  ⟨rfl, rfl, rfl⟩

theorem exVac_occ (i : ℕ) : exVac.avgOccupancy i = .ok 0 := by
  unfold Part.avgOccupancy
  rw [fockLoop_eq _ exVac_wf]
  -- the vacuum has no bit set: the one term is 0
  simp only [exVac, Finset.sum_range_succ, Finset.sum_range_zero, ofBool_eq, List.getD_cons_zero,
    Nat.zero_testBit, Bool.false_eq_true, if_false, mul_zero, zero_mul, add_zero]

theorem exVac_occTotal : exVac.avgOccupancyTotal = .ok 0 := by
  unfold Part.avgOccupancyTotal
  rw [fockLoop_eq _ exVac_wf]
  -- the vacuum has no particle: the one term is 0
  simp only [exVac, Finset.sum_range_succ, Finset.sum_range_zero, List.getD_cons_zero,
    exFock_popCount, Nat.cast_zero, mul_zero, zero_mul, add_zero]

theorem exPart_occ0 : exPart.avgOccupancy 0 = .ok (1219/5000) := by
  unfold Part.avgOccupancy
  rw [fockLoop_eq _ exPart_wf]
  simp only [exPart, Finset.sum_range_succ, Finset.sum_range_zero, Complex.normSq_ofReal, ofBool_eq]
  -- the six terms of the other two Fock states drop
  simp only [exUr_rows, exFock_bit0, List.getD_cons_zero, List.getD_cons_succ, reduceIte,
    Bool.false_eq_true, mul_zero, zero_mul, add_zero]
  norm_num

theorem exPartT_occ0 : exPart.transposeU.avgOccupancy 0 = .ok (59/200) := by
  unfold Part.avgOccupancy
  rw [fockLoop_eq _ exPartT_wf]
  simp only [exPart, Part.transposeU, Finset.sum_range_succ, Finset.sum_range_zero,
    Complex.normSq_ofReal, ofBool_eq]
  -- the six terms of the other two Fock states drop
  simp only [exUr_rows, exFock_bit0, List.getD_cons_zero, List.getD_cons_succ, reduceIte,
    Bool.false_eq_true, mul_zero, zero_mul, add_zero]
  norm_num

theorem exPart_occTotal : exPart.avgOccupancyTotal = .ok (3/4) := by
  unfold Part.avgOccupancyTotal
  rw [fockLoop_eq _ exPart_wf]
  simp only [exPart, Finset.sum_range_succ, Finset.sum_range_zero, Complex.normSq_ofReal]
  simp only [exUr_rows, List.getD_cons_zero, List.getD_cons_succ, exFock_popCount]
  norm_num

theorem exPartT_occTotal : exPart.transposeU.avgOccupancyTotal = .ok (3/4) := by
  unfold Part.avgOccupancyTotal
  rw [fockLoop_eq _ exPartT_wf]
  simp only [exPart, Part.transposeU, Finset.sum_range_succ, Finset.sum_range_zero,
    Complex.normSq_ofReal]
  simp only [exUr_rows, List.getD_cons_zero, List.getD_cons_succ, exFock_popCount]
  norm_num

/-- REGRESSION WITNESS for the index order of the eigenvector matrix.  Reading `H(s, fi)` (row `s`)
instead of `H(fi, s)` (column `s` = `getEigenState(s)`) changes the occupancy of mode 0 from
`1219/5000` to `59/200`, although the transposed matrix is still orthogonal
(`exPartsT_orthonormal`), all size invariants hold, and the TOTAL occupancy is unchanged (`3/4` both
times: every Fock state of the block has one particle and rows as well as columns of an orthogonal
matrix are normalised) -- so neither a unitarity check nor a particle-number check detects the
transposition; only the per-index occupancies (and `⟨n_i n_j⟩`, `⟨c†_i c_j⟩`) do.  A 2×2 real rotation
would not do as a witness: its entrywise squares form a symmetric matrix. -/
theorem transposed_amplitudes_differ :
    DM.avgOccupancy exParts 0 = .ok (1219/5000) ∧ DM.avgOccupancy exPartsT 0 = .ok (59/200) ∧
    DM.avgOccupancy exParts 0 ≠ DM.avgOccupancy exPartsT 0 ∧
    DM.avgOccupancyTotal exParts = .ok (3/4) ∧ DM.avgOccupancyTotal exPartsT = .ok (3/4) := by
  have h1 : DM.avgOccupancy exParts 0 = .ok (1219/5000) := by
    have h := sumParts_pair (fun p => p.avgOccupancy 0) (exVac_occ 0) exPart_occ0
    rwa [zero_add] at h
  have h2 : DM.avgOccupancy exPartsT 0 = .ok (59/200) := by
    have h := sumParts_pair (fun p => p.avgOccupancy 0) (exVac_occ 0) exPartT_occ0
    rwa [zero_add] at h
  refine ⟨h1, h2, ?_, ?_, ?_⟩
  · rw [h1, h2]
    intro h
    have := Except.ok.inj h
    norm_num at this
  · have h := sumParts_pair Part.avgOccupancyTotal exVac_occTotal exPart_occTotal
    rwa [zero_add] at h
  · have h := sumParts_pair Part.avgOccupancyTotal exVac_occTotal exPartT_occTotal
    rwa [zero_add] at h

def exMapping : List (ℕ × ℕ) := [(0, 0), (1, 1)]
noncomputable def exPfl : ℕ → GFPart.SpMat ℂ
  | 0 => [[(0, 2)]]
  | _ => [[(0, 1), (2, 5)], [(1, 3)], []]
noncomputable def exA : Matrix (Idx exParts) (Idx exParts) ℂ :=
  blockDiagonal' fun b => Matrix.of fun i j => EA.coeff (exPfl b) i j

theorem exParts_block (b : Fin exParts.length) : (b : ℕ) = 0 ∨ (b : ℕ) = 1 :=
  Nat.le_one_iff_eq_zero_or_eq_one.mp (Nat.le_of_lt_succ b.2)

theorem exEAInput : EAInput exParts exMapping exPfl exA where
  nodup := by decide
  inRange := by
    intro lr hlr
    rcases List.mem_pair.mp hlr with rfl | rfl <;> decide
  support := by
    rintro ⟨b, i⟩ ⟨b', j⟩ hne
    by_cases hb : b = b'
    · subst hb
      rcases exParts_block b with h | h <;>
        simp only [exMapping, h, List.mem_cons, true_or, or_true]
    · exact absurd (blockDiagonal'_apply_ne _ _ _ hb) hne
  rows := by
    rintro ⟨b, hb⟩ _
    rcases exParts_block ⟨b, hb⟩ with rfl | rfl <;> rfl
  entries := by
    intro b _ i
    rw [exA, blockDiagonal'_apply_eq]
    rfl

theorem ex_ensemble_average : EA.prepare exMapping exPfl exParts = .ok (13/8) := by
  simp only [EA.prepare, EA.prepareLoop, exMapping, exParts, exVac, exPart, EA.compute, loop, exPfl,
    Part.getWeight, EA.coeff, List.getElem?_cons_zero, List.getElem?_cons_succ, if_true,
    List.length_cons, List.length_nil, List.find?_cons, List.find?_nil, Bridge.ofReal_eq]
  norm_num

end Pomerol.Spec.AveragesSpec
