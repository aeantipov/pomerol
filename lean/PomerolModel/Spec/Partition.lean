/-
  `StatesClassification::compute` (model `classify`) partitions the Fock states `0 … n-1` into
  blocks: every state lies in exactly one block, blocks are non-empty ascending lists, the
  (block, inner index) address is a bijection, and two states share a block iff their quantum
  numbers agree.  Core Lean only.
-/
import PomerolModel.Model.Symm
import PomerolModel.Spec.ListLemmas

namespace Pomerol.Spec.Partition
open Pomerol.Model.Symm

variable {Q : Type} (qeq : Q → Q → Bool) (qn : Nat → Q) (n : Nat)

structure IsEquiv (qeq : Q → Q → Bool) : Prop where
  refl : ∀ a, qeq a a = true
  symm : ∀ a b, qeq a b = true → qeq b a = true
  trans : ∀ a b c, qeq a b = true → qeq b c = true → qeq a c = true

def step (acc : List Nat × List (List Nat) × List Q) (s : Nat) :
    List Nat × List (List Nat) × List Q :=
  match acc.2.2.findIdx? (qeq (qn s)) with
  | some b => (acc.1 ++ [b], acc.2.1.modify b (· ++ [s]), acc.2.2)
  | none => (acc.1 ++ [acc.2.1.length], acc.2.1 ++ [[s]], acc.2.2 ++ [qn s])

def run (k : Nat) : List Nat × List (List Nat) × List Q :=
  (List.range k).foldl (step qeq qn) ([], [], [])

theorem run_succ (k : Nat) : run qeq qn (k + 1) = step qeq qn (run qeq qn k) k := by
  unfold run
  rw [List.range_succ, List.foldl_append]
  rfl

theorem classify_eq : classify qeq qn n = ((run qeq qn n).1, (run qeq qn n).2.1) := rfl

theorem getD_modify_snoc (bl : List (List Nat)) (b c s : Nat) (hb : b < bl.length) :
    (bl.modify b (· ++ [s])).getD c [] =
      if b = c then bl.getD c [] ++ [s] else bl.getD c [] := by
  simp only [List.getD_eq_getElem?_getD, List.getElem?_modify]
  by_cases h : b = c
  · subst h
    simp [List.getElem?_eq_getElem hb]
  · simp [h]

theorem getD_snoc (bl : List (List Nat)) (x : List Nat) (c : Nat) :
    (bl ++ [x]).getD c [] = if c = bl.length then x else bl.getD c [] := by
  simp only [List.getD_eq_getElem?_getD]
  by_cases h : c = bl.length
  · subst h
    simp
  · rw [if_neg h]
    by_cases h2 : c < bl.length
    · rw [List.getElem?_append_left h2]
    · have h3 : bl.length + 1 ≤ c := Nat.lt_of_le_of_ne (Nat.le_of_not_lt h2) (Ne.symm h)
      rw [List.getElem?_eq_none (by simpa using h3), List.getElem?_eq_none (Nat.le_of_succ_le h3)]

theorem sum_length_modify_snoc (bl : List (List Nat)) (b s : Nat) (hb : b < bl.length) :
    ((bl.modify b (· ++ [s])).map List.length).sum = (bl.map List.length).sum + 1 := by
  induction bl generalizing b with
  | nil => cases hb
  | cons x bl ih =>
    cases b with
    | zero => simp [List.modify]; omega
    | succ b =>
      have hb' : b < bl.length := by simpa using hb
      simp only [List.modify_succ_cons, List.map_cons, List.sum_cons, ih b hb']
      omega

structure Inv (k : Nat) (acc : List Nat × List (List Nat) × List Q) : Prop where
  len : acc.1.length = k
  reps : acc.2.2.length = acc.2.1.length
  own : ∀ s, s < k → ∃ b, acc.1[s]? = some b ∧ b < acc.2.1.length ∧ s ∈ acc.2.1.getD b []
  uniq : ∀ b s, s ∈ acc.2.1.getD b [] → s < k ∧ acc.1[s]? = some b
  nonempty : ∀ b, b < acc.2.1.length → acc.2.1.getD b [] ≠ []
  sorted : ∀ b, (acc.2.1.getD b []).Pairwise (· < ·)
  sum : (acc.2.1.map List.length).sum = k

theorem inv_zero : Inv (Q := Q) 0 ([], [], []) where
  len := rfl
  reps := rfl
  own := fun s hs => absurd hs (Nat.not_lt_zero s)
  uniq := fun b s hm => by simp at hm
  nonempty := fun b hb => absurd hb (Nat.not_lt_zero b)
  sorted := fun b => by simp
  sum := rfl

/-- Both branches of the scan append the state `k` to one block `b` and record `b` for `k`
(seen through `getD _ []`, a new block is an empty one past the end). -/
theorem Inv.push {k : Nat} {blkOf : List Nat} {blocks : List (List Nat)} {reps : List Q}
    (h : Inv k (blkOf, blocks, reps)) (b : Nat) (blocks' : List (List Nat)) (reps' : List Q)
    (hreps : reps'.length = blocks'.length) (hb : b < blocks'.length)
    (hmono : blocks.length ≤ blocks'.length)
    (hnew : ∀ c, c < blocks'.length → c < blocks.length ∨ c = b)
    (hget : ∀ c, blocks'.getD c [] = if b = c then blocks.getD c [] ++ [k] else blocks.getD c [])
    (hsum : (blocks'.map List.length).sum = (blocks.map List.length).sum + 1) :
    Inv (k + 1) (blkOf ++ [b], blocks', reps') := by
  obtain ⟨hlen, -, hown, huniq, hne, hsorted, hsum0⟩ := h
  simp only at hlen hown huniq hne hsorted hsum0
  have hold : ∀ s c, blkOf[s]? = some c → (blkOf ++ [b])[s]? = some c :=
    fun s c hs => getElem?_append_of_eq_some hs _
  have hk : (blkOf ++ [b])[k]? = some b := hlen ▸ List.getElem?_concat_length
  refine ⟨by simp [hlen], hreps, ?_, ?_, ?_, ?_, by rw [hsum, hsum0]⟩
  · intro s hs
    rcases Nat.lt_or_ge s k with h1 | h1
    · obtain ⟨c, h2, h3, h4⟩ := hown s h1
      refine ⟨c, hold s c h2, Nat.lt_of_lt_of_le h3 hmono, ?_⟩
      simp only [hget]
      split
      · exact List.mem_append_left _ h4
      · exact h4
    · obtain rfl : s = k := Nat.le_antisymm (Nat.le_of_lt_succ hs) h1
      refine ⟨b, hk, hb, ?_⟩
      simp only [hget, if_true]
      exact List.mem_append_right _ (List.mem_singleton.2 rfl)
  · intro c s hm
    simp only [hget] at hm
    split at hm
    · next hbc =>
      rcases List.mem_append.1 hm with hm | hm
      · obtain ⟨h1, h2⟩ := huniq c s hm
        exact ⟨Nat.lt_succ_of_lt h1, hold s c h2⟩
      · obtain rfl : s = k := List.mem_singleton.1 hm
        exact ⟨Nat.lt_succ_self s, hbc ▸ hk⟩
    · obtain ⟨h1, h2⟩ := huniq c s hm
      exact ⟨Nat.lt_succ_of_lt h1, hold s c h2⟩
  · intro c hc
    simp only [hget]
    split
    · simp
    · next hbc => exact hne c ((hnew c hc).resolve_right fun e => hbc e.symm)
  · intro c
    simp only [hget]
    split
    · rw [List.pairwise_append]
      refine ⟨hsorted c, List.pairwise_singleton _ _, fun a ha x hx => ?_⟩
      obtain rfl : x = k := List.mem_singleton.1 hx
      exact (huniq c a ha).1
    · exact hsorted c

theorem inv_step (k : Nat) (acc : List Nat × List (List Nat) × List Q) (h : Inv k acc) :
    Inv (k + 1) (step qeq qn acc k) := by
  obtain ⟨blkOf, blocks, reps⟩ := acc
  have hreps : reps.length = blocks.length := h.reps
  unfold step
  cases hf : reps.findIdx? (qeq (qn k)) with
  | some b =>
    have hb : b < blocks.length := by
      rw [List.findIdx?_eq_some_iff_getElem] at hf
      obtain ⟨hb, _⟩ := hf
      exact hreps ▸ hb
    exact h.push b _ _ (by simp [hreps]) (by simpa using hb) (by simp)
      (fun c hc => Or.inl (by simpa using hc)) (fun c => getD_modify_snoc _ _ _ _ hb)
      (sum_length_modify_snoc _ _ _ hb)
  | none =>
    refine h.push blocks.length _ _ (by simp [hreps]) (by simp) (by simp)
      (fun c hc => ?_) (fun c => ?_) (by simp)
    · simp only [List.length_append, List.length_cons, List.length_nil] at hc
      exact Nat.lt_succ_iff_lt_or_eq.mp hc
    · rw [getD_snoc]
      by_cases hc : c = blocks.length
      · subst hc; simp
      · rw [if_neg hc, if_neg (Ne.symm hc)]

theorem inv_run (k : Nat) : Inv k (run qeq qn k) := by
  induction k with
  | zero => exact inv_zero
  | succ k ih =>
    rw [run_succ]
    exact inv_step qeq qn k _ ih

theorem step_spec (hrefl : ∀ a, qeq a a = true) (acc : List Nat × List (List Nat) × List Q)
    (k : Nat) (hreps : acc.2.2.length = acc.2.1.length) :
    ∃ x e, (step qeq qn acc k).1 = acc.1 ++ [x] ∧ (step qeq qn acc k).2.2 = acc.2.2 ++ e ∧
      (acc.2.2 ++ e).findIdx? (qeq (qn k)) = some x := by
  unfold step
  cases hf : acc.2.2.findIdx? (qeq (qn k)) with
  | some b => exact ⟨b, [], rfl, (List.append_nil _).symm, by rw [List.append_nil, hf]⟩
  | none =>
    exact ⟨_, [qn k], rfl, rfl, by simp [List.findIdx?_append, hf, List.findIdx?_cons, hrefl, hreps]⟩

theorem blk_eq_findIdx (hrefl : ∀ a, qeq a a = true) (k : Nat) :
    ∀ s, s < k → (run qeq qn k).1[s]? = (run qeq qn k).2.2.findIdx? (qeq (qn s)) := by
  induction k with
  | zero => intro s hs; cases hs
  | succ k ih =>
    have hinv := inv_run qeq qn k
    obtain ⟨x, e, h1, h2, h3⟩ := step_spec qeq qn hrefl (run qeq qn k) k hinv.reps
    rw [run_succ, h1, h2]
    intro s hs
    rcases Nat.lt_or_ge s k with hsk | hsk
    · obtain ⟨b, hb, -, -⟩ := hinv.own s hsk
      rw [getElem?_append_of_eq_some hb, List.findIdx?_append, ← ih s hsk, hb]
      rfl
    · obtain rfl : s = k := Nat.le_antisymm (Nat.le_of_lt_succ hs) hsk
      have := List.getElem?_concat_length (l := (run qeq qn s).1) (a := x)
      rwa [hinv.len, ← h3] at this

theorem classify_inv :
    Inv n ((classify qeq qn n).1, (classify qeq qn n).2, (run qeq qn n).2.2) :=
  inv_run qeq qn n

/-- (holds for any `qeq`, equivalence relation or not) -/
theorem mem_unique_block (s b : Nat) (hm : s ∈ ((classify qeq qn n).2.getD b [])) :
    (classify qeq qn n).1[s]? = some b :=
  ((classify_inv qeq qn n).uniq b s hm).2

theorem block_members_lt (b s : Nat) (hm : s ∈ ((classify qeq qn n).2.getD b [])) : s < n :=
  ((classify_inv qeq qn n).uniq b s hm).1

theorem blocks_nonempty (b : Nat) (hb : b < (classify qeq qn n).2.length) :
    ((classify qeq qn n).2.getD b []) ≠ [] :=
  (classify_inv qeq qn n).nonempty b hb

theorem blocks_nodup (b : Nat) : ((classify qeq qn n).2.getD b []).Nodup :=
  ((classify_inv qeq qn n).sorted b).imp Nat.ne_of_lt

theorem inner_roundtrip (s : Nat) (hs : s < n) :
    ∃ b i, (classify qeq qn n).1[s]? = some b ∧
      innerState (classify qeq qn n).1 (classify qeq qn n).2 s = some i ∧
      ((classify qeq qn n).2.getD b [])[i]? = some s := by
  obtain ⟨b, h1, -, h3⟩ := (classify_inv qeq qn n).own s hs
  obtain ⟨i, hi⟩ := List.getElem?_of_mem h3
  refine ⟨b, i, h1, ?_, hi⟩
  unfold innerState
  rw [h1]
  exact findIdx?_of_nodup _ (blocks_nodup qeq qn n b) i s hi

/-- (holds for any `qeq`, equivalence relation or not) -/
theorem address_roundtrip (b i s : Nat)
    (hs : ((classify qeq qn n).2.getD b [])[i]? = some s) :
    (classify qeq qn n).1[s]? = some b ∧
      innerState (classify qeq qn n).1 (classify qeq qn n).2 s = some i := by
  have h1 := mem_unique_block qeq qn n s b (List.mem_of_getElem? hs)
  refine ⟨h1, ?_⟩
  unfold innerState
  rw [h1]
  exact findIdx?_of_nodup _ (blocks_nodup qeq qn n b) i s hs

theorem same_block_iff (h : IsEquiv qeq) (s t : Nat) (hs : s < n) (ht : t < n) :
    (classify qeq qn n).1[s]? = (classify qeq qn n).1[t]? ↔ qeq (qn s) (qn t) = true := by
  rw [classify_eq]
  simp only
  rw [blk_eq_findIdx qeq qn h.refl n s hs, blk_eq_findIdx qeq qn h.refl n t ht]
  obtain ⟨b, hb1, hb2, -⟩ := (inv_run qeq qn n).own s hs
  rw [blk_eq_findIdx qeq qn h.refl n s hs] at hb1
  constructor
  · intro heq
    have hb1' := hb1
    rw [heq] at hb1'
    rw [List.findIdx?_eq_some_iff_getElem] at hb1 hb1'
    obtain ⟨hl, h1, -⟩ := hb1
    obtain ⟨_, h2, -⟩ := hb1'
    exact h.trans _ _ _ h1 (h.symm _ _ h2)
  · intro hq
    have hfun : qeq (qn s) = qeq (qn t) := by
      funext r
      cases h1 : qeq (qn s) r with
      | true =>
        exact (h.trans _ _ _ (h.symm _ _ hq) h1).symm
      | false =>
        cases h2 : qeq (qn t) r with
        | false => rfl
        | true => rw [h.trans _ _ _ hq h2] at h1; cases h1
    rw [hfun]

end Pomerol.Spec.Partition
