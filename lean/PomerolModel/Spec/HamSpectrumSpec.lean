/-
  The spectrum bookkeeping of `Hamiltonian` (`Model/HamSpectrum.lean`), for property C03: what `minCoeff`
  and the loop filling `LEV` return (`C03.ground_energy_is_minimum_over_blocks` is drawn from these in
  `Properties/C03.lean`), `getEigenValues` as the concatenation of the block spectra,
  `getEigenValue(state)` as the entry of the state's block at the state's inner position.  `blocks_getD`
  and `innerState_of_block` (what `getInnerState` returns) also serve `Spec/FieldPartSpec.lean`.
-/
import PomerolModel.Model.HamSpectrum
import PomerolModel.Spec.ListLemmas
import Mathlib.Data.Real.Basic
import Mathlib.Tactic.Choose

namespace Pomerol.Spec.HamSpectrumSpec
open Pomerol.Model Pomerol.Model.HamSpectrum

theorem foldl_min_spec : ∀ (xs : List ℝ) (x : ℝ),
    (xs.foldl (fun m v => if v < m then v else m) x ∈ x :: xs) ∧
    (∀ e ∈ x :: xs, xs.foldl (fun m v => if v < m then v else m) x ≤ e)
  | [], x => by simp
  | y :: ys, x => by
    rw [List.foldl_cons, ← min_def_lt']
    obtain ⟨hmem, hle⟩ := foldl_min_spec ys (min x y)
    refine ⟨?_, fun e he => ?_⟩
    · rcases List.mem_cons.mp hmem with h | h
      · rw [h]
        rcases min_choice x y with h' | h' <;> rw [h'] <;> simp
      · exact List.mem_cons_of_mem _ (List.mem_cons_of_mem _ h)
    · have h0 := hle _ List.mem_cons_self
      rcases List.mem_cons.mp he with rfl | he
      · exact h0.trans (min_le_left _ _)
      · rcases List.mem_cons.mp he with rfl | he
        · exact h0.trans (min_le_right _ _)
        · exact hle e (List.mem_cons_of_mem _ he)

theorem minCoeff_spec (l : List ℝ) (hl : l ≠ []) :
    ∃ g, minCoeff l = .ok g ∧ g ∈ l ∧ ∀ e ∈ l, g ≤ e := by
  cases l with
  | nil => exact absurd rfl hl
  | cons x xs =>
    obtain ⟨h1, h2⟩ := foldl_min_spec xs x
    exact ⟨_, rfl, h1, h2⟩

theorem minCoeff_nil : minCoeff ([] : List ℝ) = .error .emptyVector := rfl

theorem levLoop_append_map (m : List ℝ → ℝ) (rest : List (List ℝ)) :
    ∀ (parts : List (List ℝ)) (lev : List ℝ), (∀ ev ∈ parts, minCoeff ev = .ok (m ev)) →
      levLoop (parts ++ rest) lev = levLoop rest (lev ++ parts.map m)
  | [], lev, _ => by rw [List.nil_append, List.map_nil, List.append_nil]
  | ev :: more, lev, h => by
    rw [List.cons_append, levLoop, getMinimumEigenvalue, h ev List.mem_cons_self]
    simp only
    rw [levLoop_append_map m rest more _ fun ev' h' => h ev' (List.mem_cons_of_mem _ h'),
      List.append_assoc]
    rfl

theorem levLoop_map (m : List ℝ → ℝ) (parts : List (List ℝ)) (lev : List ℝ)
    (h : ∀ ev ∈ parts, minCoeff ev = .ok (m ev)) : levLoop parts lev = .ok (lev ++ parts.map m) := by
  have := levLoop_append_map m [] parts lev h
  rwa [List.append_nil] at this

/-- without any block the source takes `minCoeff()` of an empty vector -/
theorem ground_energy_no_blocks : groundEnergy ([] : List (List ℝ)) = none := rfl

/-- an empty block makes `getMinimumEigenvalue` undefined -/
theorem ground_energy_empty_block (pre post : List (List ℝ)) (hpre : ∀ ev ∈ pre, ev ≠ []) :
    groundEnergy (pre ++ [] :: post) = none := by
  choose! m hm _ _ using minCoeff_spec
  unfold groundEnergy computeGroundEnergy
  rw [if_neg (lt_irrefl _), levLoop_append_map m _ pre [] fun ev h => hm ev (hpre ev h)]
  rfl

theorem allEigenValues_eq_flatten (parts : List (List ℝ)) : allEigenValues parts = parts.flatten :=
  (List.foldl_append_eq_append (f := id)).trans (by rw [List.map_id, List.nil_append])

theorem eigenValueOfState_eq {blkOf : List ℕ} {blocks : List (List ℕ)} {parts : List (List ℝ)}
    {state b i : ℕ} {ev : List ℝ}
    (hb : blkOf[state]? = some b) (hi : Symm.innerState blkOf blocks state = some i)
    (hp : parts[b]? = some ev) :
    eigenValueOfState blkOf blocks parts state
      = match ev[i]? with
        | none => .error .outOfRange
        | some e => .ok e := by
  unfold eigenValueOfState
  rw [hi]
  simp only [hb, hp]
  cases ev[i]? <;> rfl

theorem blocks_getD (blocks : List (List ℕ)) (b : Fin blocks.length) :
    blocks.getD b [] = blocks.get b :=
  getD_eq_getElem blocks [] b.2

/-- the hypotheses: the table "block of a state" is consistent with the lists of states
(C07: `every_state_in_exactly_one_block`) and the block lists no state twice -/
theorem innerState_of_block {blkOf : List ℕ} {blocks : List (List ℕ)}
    (hcls : ∀ b s, s ∈ blocks.getD b [] → blkOf[s]? = some b)
    {b : Fin blocks.length} (hnd : (blocks.get b).Nodup) {i : ℕ} (hi : i < (blocks.get b).length) :
    blkOf[(blocks.get b)[i]]? = some (b : ℕ) ∧
    Symm.innerState blkOf blocks ((blocks.get b)[i]) = some i := by
  have hblk : blkOf[(blocks.get b)[i]]? = some (b : ℕ) :=
    hcls b _ (by rw [blocks_getD]; exact List.getElem_mem hi)
  refine ⟨hblk, ?_⟩
  unfold Symm.innerState
  rw [hblk]
  simp only
  rw [blocks_getD]
  exact findIdx?_of_nodup _ hnd i _ (List.getElem?_eq_getElem hi)

/-- the lookup of a state whose inner position lies beyond the eigenvalues its block stores reads past the
end.  `Hamiltonian::reduce` leaves such blocks; the hypothesis is `ev.length ≤ i` itself, the model's
`reducePart`/`reduceAll` occur in no theorem -/
theorem eigenvalue_lookup_reduced (blkOf : List ℕ) (blocks : List (List ℕ)) (parts : List (List ℝ))
    (state b i : ℕ) (ev : List ℝ)
    (hb : blkOf[state]? = some b) (hi : Symm.innerState blkOf blocks state = some i)
    (hp : parts[b]? = some ev) (hlen : ev.length ≤ i) :
    eigenValueOfState blkOf blocks parts state = .error .outOfRange := by
  rw [eigenValueOfState_eq hb hi hp, List.getElem?_eq_none hlen]

end Pomerol.Spec.HamSpectrumSpec
