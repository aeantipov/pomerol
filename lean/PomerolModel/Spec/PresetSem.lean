/-
  Property C04, second half: what the presets of `LatticePresets` ADD to a lattice, as operators.

  `latSem r tbl L` is the operator a lattice stands for in a representation `r : CARRep K A` of the
  canonical anticommutation relations: the sum over the stored terms of amplitude × ordered product
  of `r.cd` / `r.c` of the single-particle indices of the factors.  (It is, definitionally, the
  `latticeDenot` of `Properties/C04Hamiltonian.lean`, for which `hamiltonian_is_sum_of_terms` is
  proved; `Properties/C04.lean` joins the two.)

  Every preset is treated the same way.  `Adds r tbl L L' x` ("going from `L` to `L'` adds the operator
  `x`", keeping the storage well-formed, `LatWF`) holds for storing one term and composes along sequences
  and counted loops; so a preset that returns normally adds the sum over its loop passes, which is then
  rearranged into the operator documented for it (defined in `Spec/SpinAlgebra.lean`; the `*_adds`
  versions of the `*_sem` theorems name the operators: `levelOp`, `hopOp`, ...).  Hypothesis `hnz`: the model of
  `std::abs(x)` as a truth value answers `false` only for `x = 0`.  SU(2) invariance is that of
  `Spec/SpinAlgebra.lean` with the families of orbitals the index table of `IndexClassification` provides;
  Hermiticity is stated in a `*`-algebra with `star c_i = c†_i` (such a representation exists non-trivially:
  `Spec/CARStarAlgebra.lean`).
-/
import PomerolModel.Model.Index
import PomerolModel.Spec.CAR
import PomerolModel.Spec.LatticeProps
import PomerolModel.Spec.IndexBij
import PomerolModel.Spec.SpinAlgebra
import Mathlib.Algebra.BigOperators.Group.Finset.Basic
import Mathlib.Algebra.BigOperators.Ring.Finset
import Mathlib.Algebra.BigOperators.GroupWithZero.Action
import Mathlib.Algebra.Field.Basic
import Mathlib.Algebra.Star.Module
import Mathlib.Algebra.Star.BigOperators
import Mathlib.Tactic.Abel

set_option linter.unusedSectionVars false

namespace Pomerol.Spec.PresetSem
open Pomerol.Model Pomerol.Model.Lat Pomerol.Spec Pomerol.Gen.Presets Pomerol.Spec.LatticeProps
open Finset (range)

section Defs
variable {K A : Type} [CommRing K] [Ring A] [Algebra K A]

/-- the operator one factor `(creation?, index)` stands for; `true` = creation as in `Term.ops` (`Op.ann`
of `Model/Operator.lean` is the opposite: `true` = annihilation) -/
def factorSem (r : CARRep K A) (f : Bool × Nat) : A := if f.1 then r.cd f.2 else r.c f.2

def termFactors (tbl : List Idx.IndexInfo) (t : Term K) : List (Bool × Nat) :=
  (List.range t.order).map fun i =>
    (t.ops.getD i false,
      Idx.getIndex tbl ⟨t.labels.getD i "", t.orbs.getD i 0, t.spins.getD i 0⟩)

/-- the operator a lattice term stands for: amplitude × ordered product of its factors; a term
without factors contributes nothing -/
def termSem (r : CARRep K A) (tbl : List Idx.IndexInfo) (t : Term K) : A :=
  match termFactors tbl t with
  | [] => 0
  | f :: fs => t.value • ((f :: fs).map (factorSem r)).prod

/-- the operator a lattice stands for: the sum over the orders `maxOrder, …, 1` of the sum over the
stored terms of that order (the `latticeDenot` of `hamiltonian_is_sum_of_terms`) -/
def latSem (r : CARRep K A) (tbl : List Idx.IndexInfo) (L : Lat.Lattice K) : A :=
  (((List.range L.maxOrder).reverse.map (· + 1)).map fun n =>
    ((getTerms L n).map (termSem r tbl)).sum).sum

def idxOf (tbl : List Idx.IndexInfo) (l : String) (o s : Nat) : Nat := Idx.getIndex tbl ⟨l, o, s⟩

theorem termSem_two (r : CARRep K A) (tbl : List Idx.IndexInfo) (a1 a2 : Bool) (l1 l2 : String)
    (o1 o2 s1 s2 : Nat) (v : K) :
    termSem r tbl ⟨[a1, a2], [l1, l2], [o1, o2], [s1, s2], v⟩ =
      v • (factorSem r (a1, idxOf tbl l1 o1 s1) * factorSem r (a2, idxOf tbl l2 o2 s2)) := by
  show v • ([(a1, idxOf tbl l1 o1 s1), (a2, idxOf tbl l2 o2 s2)].map (factorSem r)).prod = _
  rw [List.map_cons, List.map_cons, List.map_nil, List.prod_cons, List.prod_cons, List.prod_nil,
    mul_one]

/-- The preset factories unfold to records with two or four factors, and `factorSem r (true, x)` to
`r.cd x`, by `rfl`: what a preset term denotes is an instance of `termSem_two` or of this. -/
theorem termSem_four (r : CARRep K A) (tbl : List Idx.IndexInfo) (a1 a2 a3 a4 : Bool)
    (l1 l2 l3 l4 : String) (o1 o2 o3 o4 s1 s2 s3 s4 : Nat) (v : K) :
    termSem r tbl ⟨[a1, a2, a3, a4], [l1, l2, l3, l4], [o1, o2, o3, o4], [s1, s2, s3, s4], v⟩ =
      v • (factorSem r (a1, idxOf tbl l1 o1 s1) * factorSem r (a2, idxOf tbl l2 o2 s2) *
           factorSem r (a3, idxOf tbl l3 o3 s3) * factorSem r (a4, idxOf tbl l4 o4 s4)) := by
  show v • ([(a1, idxOf tbl l1 o1 s1), (a2, idxOf tbl l2 o2 s2), (a3, idxOf tbl l3 o3 s3),
    (a4, idxOf tbl l4 o4 s4)].map (factorSem r)).prod = _
  simp only [List.map_cons, List.map_nil, List.prod_cons, List.prod_nil, mul_one, mul_assoc]

end Defs

section Store
variable {K A : Type} [Field K] [NonzeroTest K] [Ring A] [Algebra K A]
variable (r : CARRep K A) (tbl : List Idx.IndexInfo)

/-- well-formed term storage: the `std::map` is sorted by order and no term list is stored under
an order larger than `maxOrder` (true of `Lat.empty`, preserved by `storeTerm`) -/
def LatWF (L : Lat.Lattice K) : Prop := TermsOK L ∧ ∀ n, L.maxOrder < n → getTerms L n = []

theorem latWF_empty : LatWF (Lat.empty : Lat.Lattice K) :=
  ⟨empty_ok.2, fun _ _ => rfl⟩

theorem latWF_addSite (L : Lat.Lattice K) (h : LatWF L) (l : String) (o s : Nat) :
    LatWF (addSite L l o s) := h

theorem latWF_store (L : Lat.Lattice K) (h : LatWF L) (t : Term K) : LatWF (storeTerm L t) := by
  refine ⟨storeTerm_ok L h.1 t, fun n hn => ?_⟩
  rw [maxOrder_storeTerm, Nat.max_lt] at hn
  rw [getTerms_storeTerm L h.1, if_neg (Nat.ne_of_gt hn.2)]
  exact h.2 n hn.1

theorem list_sum_orders (f : Nat → A) (m : Nat) :
    (((List.range m).reverse.map (· + 1)).map f).sum = ∑ n ∈ range m, f (n + 1) := by
  rw [List.map_map, List.map_reverse, List.sum_reverse]
  rfl

theorem latSem_eq_sum (L : Lat.Lattice K) (h : LatWF L) (M : Nat) (hM : L.maxOrder ≤ M) :
    latSem r tbl L = ∑ n ∈ range M, ((getTerms L (n + 1)).map (termSem r tbl)).sum := by
  unfold latSem
  rw [list_sum_orders]
  refine Finset.sum_subset (Finset.range_mono hM) (fun n hn hn' => ?_)
  rw [Finset.mem_range] at hn hn'
  rw [h.2 (n + 1) (by omega)]
  rfl

theorem termSem_order_zero (t : Term K) (h : t.order = 0) : termSem r tbl t = 0 := by
  unfold termSem termFactors
  rw [h]
  rfl

theorem latSem_store (L : Lat.Lattice K) (h : LatWF L) (t : Term K) :
    latSem r tbl (storeTerm L t) = latSem r tbl L + termSem r tbl t := by
  rw [latSem_eq_sum r tbl _ (latWF_store L h t) (max L.maxOrder t.order)
      (by rw [maxOrder_storeTerm]),
    latSem_eq_sum r tbl L h _ (Nat.le_max_left ..)]
  have step : ∀ n, ((getTerms (storeTerm L t) (n + 1)).map (termSem r tbl)).sum =
      ((getTerms L (n + 1)).map (termSem r tbl)).sum +
        (if n + 1 = t.order then termSem r tbl t else 0) := by
    intro n
    rw [getTerms_storeTerm L h.1]
    split <;> simp
  rw [Finset.sum_congr rfl (fun n _ => step n), Finset.sum_add_distrib]
  congr 1
  by_cases h0 : t.order = 0
  · rw [termSem_order_zero r tbl t h0]
    exact Finset.sum_eq_zero (fun n _ => by split <;> rfl)
  · rw [Finset.sum_eq_single (t.order - 1)]
    · rw [if_pos (Nat.sub_add_cancel (Nat.pos_of_ne_zero h0))]
    · intro n _ hn
      rw [if_neg fun e => hn (Nat.eq_sub_of_add_eq e)]
    · intro hn
      have hlt : t.order - 1 < max L.maxOrder t.order :=
        Nat.lt_of_lt_of_le (Nat.sub_one_lt h0) (Nat.le_max_right ..)
      exact absurd (Finset.mem_range.2 hlt) hn

def Adds (L L' : Lat.Lattice K) (x : A) : Prop :=
  LatWF L' ∧ latSem r tbl L' = latSem r tbl L + x

variable {r tbl}

theorem adds_refl {L : Lat.Lattice K} (h : LatWF L) : Adds r tbl L L 0 := ⟨h, (add_zero _).symm⟩

theorem adds_store {L : Lat.Lattice K} (h : LatWF L) (t : Term K) :
    Adds r tbl L (storeTerm L t) (termSem r tbl t) := ⟨latWF_store L h t, latSem_store r tbl L h t⟩

theorem adds_trans {L L' L'' : Lat.Lattice K} {x y : A} (h1 : Adds r tbl L L' x)
    (h2 : Adds r tbl L' L'' y) : Adds r tbl L L'' (x + y) :=
  ⟨h2.1, by rw [h2.2, h1.2, add_assoc]⟩

theorem adds_store₂ {L : Lat.Lattice K} (h : LatWF L) (t1 t2 : Term K) :
    Adds r tbl L (storeTerm (storeTerm L t1) t2) (termSem r tbl t1 + termSem r tbl t2) :=
  adds_trans (adds_store h t1) (adds_store (latWF_store L h t1) t2)

theorem adds_then {L L' L'' : Lat.Lattice K} {x y : A} (h1 : Adds r tbl L L' x)
    (h2 : LatWF L' → Adds r tbl L' L'' y) : Adds r tbl L L'' (x + y) :=
  adds_trans h1 (h2 h1.1)

theorem adds_congr {L L' : Lat.Lattice K} {x y : A} (h : Adds r tbl L L' x) (e : x = y) :
    Adds r tbl L L' y := e ▸ h

theorem termSem_value_zero (t : Term K) (h : t.value = 0) : termSem r tbl t = 0 := by
  unfold termSem
  split
  · rfl
  · rw [h, zero_smul]

/-- `if (std::abs(v)) addTerm(t)`: the skipped term has amplitude 0 and denotes 0 -/
theorem adds_ite_store (hnz : ∀ x : K, NonzeroTest.nz x = false → x = 0) {L : Lat.Lattice K}
    (h : LatWF L) (v : K) (t : Term K) (hv : t.value = v) :
    Adds r tbl L (if NonzeroTest.nz v = true then storeTerm L t else L) (termSem r tbl t) := by
  split
  · exact adds_store h t
  · rename_i hz
    have : termSem r tbl t = 0 :=
      termSem_value_zero t (hv.trans (hnz v (by simpa using hz)))
    rw [this]
    exact adds_refl h

theorem list_range_sum (g : Nat → A) (n : Nat) : ((List.range n).map g).sum = ∑ i ∈ range n, g i :=
  rfl

/-- a counted loop whose `i`-th pass adds `g i` adds `Σ_{i<n} g i` (`foldl_ind` with "the passes done
so far have added their sum") -/
theorem forRange_adds {f : Lat.Lattice K → Nat → Lat.Lattice K} {g : Nat → A} (n : Nat)
    (L : Lat.Lattice K) (h : LatWF L)
    (hstep : ∀ s i, i < n → LatWF s → Adds r tbl s (f s i) (g i)) :
    Adds r tbl L (forRange n L f) (∑ i ∈ range n, g i) := by
  rw [← list_range_sum]
  refine foldl_ind (fun pre s => Adds r tbl L s (pre.map g).sum) f _ L (adds_refl h)
    (fun pre i s hi hp => ?_)
  simp only [List.map_append, List.sum_append, List.map_singleton, List.sum_singleton]
  exact adds_trans hp (hstep s i (by simpa using hi) hp.1)

theorem rangeM_adds {f : Lat.Lattice K → Nat → Except Exc (Lat.Lattice K)} {g : Nat → A}
    (n : Nat) (L L' : Lat.Lattice K) (h : LatWF L)
    (hstep : ∀ s i s', i < n → LatWF s → f s i = .ok s' → Adds r tbl s s' (g i))
    (hr : (List.range n).foldlM f L = .ok L') : Adds r tbl L L' (∑ i ∈ range n, g i) := by
  rw [← list_range_sum]
  refine foldlM_ind (fun pre s => Adds r tbl L s (pre.map g).sum) f _ L L' (adds_refl h)
    (fun pre i s s' hi hp hs => ?_) hr
  simp only [List.map_append, List.sum_append, List.map_singleton, List.sum_singleton]
  exact adds_trans hp (hstep s i s' (by simpa using hi) hp.1 hs)

end Store

section Terms
variable {K A : Type} [Field K] [NonzeroTest K] [Ring A] [Algebra K A]
variable (r : CARRep K A) (tbl : List Idx.IndexInfo)

theorem termSem_tHopping (l1 l2 : String) (t : K) (o1 o2 s1 s2 : Nat) :
    termSem r tbl (tHopping l1 l2 t o1 o2 s1 s2) =
      t • (r.cd (idxOf tbl l1 o1 s1) * r.c (idxOf tbl l2 o2 s2)) :=
  termSem_two r tbl true false ..

theorem termSem_tLevel (l : String) (v : K) (o s : Nat) :
    termSem r tbl (tLevel l v o s) = v • num r (idxOf tbl l o s) :=
  termSem_two r tbl true false ..

omit [NonzeroTest K] in
theorem tNupNdown_value (l1 l2 : String) (v : K) (o1 o2 s1 s2 : Nat) :
    (tNupNdown l1 l2 v o1 o2 s1 s2).value = v := by
  unfold tNupNdown
  split <;> rfl

omit [NonzeroTest K] in
theorem tNupNdown_of_ne (l1 l2 : String) (v : K) (o1 o2 s1 s2 : Nat)
    (hne : ¬ (l1 = l2 ∧ s1 = s2 ∧ o1 = o2)) :
    tNupNdown l1 l2 v o1 o2 s1 s2 =
      ⟨[true, false, true, false], [l1, l1, l2, l2], [o1, o1, o2, o2], [s1, s1, s2, s2], v⟩ := by
  unfold tNupNdown
  rw [if_neg]
  · rfl
  · simpa only [nupndownDegenerate, Bool.and_eq_true, decide_eq_true_eq, Nat.cast_inj] using hne

theorem termSem_tNupNdown_ne (l1 l2 : String) (v : K) (o1 o2 s1 s2 : Nat)
    (hne : ¬ (l1 = l2 ∧ s1 = s2 ∧ o1 = o2)) :
    termSem r tbl (tNupNdown l1 l2 v o1 o2 s1 s2) =
      v • (num r (idxOf tbl l1 o1 s1) * num r (idxOf tbl l2 o2 s2)) := by
  rw [tNupNdown_of_ne l1 l2 v o1 o2 s1 s2 hne, termSem_four, mul_assoc]
  rfl

/-- `NupNdown` always denotes `v · n n` (the degenerate case by `n² = n`) -/
theorem termSem_tNupNdown (hcd : ∀ i, r.cd i * r.cd i = 0) (l1 l2 : String) (v : K) (o1 o2 s1 s2 : Nat) :
    termSem r tbl (tNupNdown l1 l2 v o1 o2 s1 s2) =
      v • (num r (idxOf tbl l1 o1 s1) * num r (idxOf tbl l2 o2 s2)) := by
  by_cases hne : (l1 = l2 ∧ s1 = s2 ∧ o1 = o2)
  · obtain ⟨rfl, rfl, rfl⟩ := hne
    have : (decide (l1 = l1) && nupndownDegenerate o1 o1 s1 s1) = true := by
      simp [nupndownDegenerate]
    unfold tNupNdown
    rw [this, if_pos rfl, termSem_tLevel, num_sq r hcd]
  · exact termSem_tNupNdown_ne r tbl l1 l2 v o1 o2 s1 s2 hne

theorem termSem_tSplusSminus (l1 l2 : String) (v : K) (o : Nat) :
    termSem r tbl (tSplusSminus l1 l2 v o) =
      v • (sPlus r (idxOf tbl l1 o spinUp) (idxOf tbl l1 o spinDown) *
           sMinus r (idxOf tbl l2 o spinUp) (idxOf tbl l2 o spinDown)) :=
  (termSem_four r tbl true false true false ..).trans (by rw [mul_assoc]; rfl)

theorem termSem_tSminusSplus (l1 l2 : String) (v : K) (o : Nat) :
    termSem r tbl (tSminusSplus l1 l2 v o) =
      v • (sMinus r (idxOf tbl l1 o spinUp) (idxOf tbl l1 o spinDown) *
           sPlus r (idxOf tbl l2 o spinUp) (idxOf tbl l2 o spinDown)) :=
  (termSem_four r tbl true false true false ..).trans (by rw [mul_assoc]; rfl)

end Terms

section OnSiteAndHopping
variable {K A : Type} [Field K] [NonzeroTest K] [Ring A] [Algebra K A]
variable {r : CARRep K A} {tbl : List Idx.IndexInfo}
variable (hnz : ∀ x : K, NonzeroTest.nz x = false → x = 0)
include hnz

theorem addLevel_sem (L L' : Lat.Lattice K) (l : String) (lv : K) (a : Site)
    (ha : findSite L l = some a) (hwf : LatWF L) (h : addLevel L l lv = .ok L') :
    Adds r tbl L L' (lv • ∑ α ∈ range a.norb, ∑ σ ∈ range a.nspin, num r (idxOf tbl l α σ)) := by
  replace h := (ok_of_guarded h).2
  rw [guardEnv_orb1 L l l a ha, guardEnv_spin1 L l l a ha] at h
  cases h
  rw [Finset.smul_sum]
  refine forRange_adds _ _ hwf (fun L1 i hi h1 => ?_)
  rw [Finset.smul_sum]
  refine forRange_adds _ _ h1 (fun L2 z hz h2 => ?_)
  exact adds_congr (adds_ite_store hnz h2 lv _ rfl) (termSem_tLevel r tbl l lv i z)

omit hnz in
/-- **`addMagnetization`** adds `mH Σ_α (n_{α↑} − n_{α↓})`.  DEVIATION from the comment in
`LatticePresets.h`, which announces `Σ_α mH ½ (n_{α↑} − n_{α↓})`: the code adds twice that. -/
theorem addMagnetization_sem (L L' : Lat.Lattice K) (l : String) (mH : K) (a : Site)
    (ha : findSite L l = some a) (hwf : LatWF L) (h : addMagnetization L l mH = .ok L') :
    Adds r tbl L L' (mH • ∑ α ∈ range a.norb,
      (num r (idxOf tbl l α spinUp) - num r (idxOf tbl l α spinDown))) := by
  replace h := (ok_of_guarded h).2
  rw [guardEnv_orb1 L l l a ha] at h
  cases h
  rw [Finset.smul_sum]
  refine forRange_adds _ _ hwf (fun L1 i hi h1 => ?_)
  refine adds_congr (adds_store₂ h1 _ _) ?_
  simp only [termSem_tLevel, addMagnetization_up, addMagnetization_down, smul_sub, neg_smul, ← sub_eq_add_neg]

/-- **`addCoulombS`** adds `U Σ_α Σ_{σ>σ'} n_{ασ} n_{ασ'} + ε Σ_{α,σ} n_{ασ}`; for a site with two
spin components the first sum is `U Σ_α n_{α↑} n_{α↓}` (`addCoulombS_sem_two_spins`). -/
theorem addCoulombS_sem (L L' : Lat.Lattice K) (l : String) (U lv : K) (a : Site)
    (ha : findSite L l = some a) (hwf : LatWF L) (h : addCoulombS L l U lv = .ok L') :
    Adds r tbl L L'
      (U • ∑ α ∈ range a.norb, ∑ σ ∈ range a.nspin, ∑ σ' ∈ range σ,
          num r (idxOf tbl l α σ) * num r (idxOf tbl l α σ') +
       lv • ∑ α ∈ range a.norb, ∑ σ ∈ range a.nspin, num r (idxOf tbl l α σ)) := by
  replace h := (ok_of_guarded h).2
  rw [guardEnv_orb1 L l l a ha, guardEnv_spin1 L l l a ha] at h
  cases h
  -- the sums in the order of the loops
  refine adds_congr (x := ∑ α ∈ range a.norb, ∑ σ ∈ range a.nspin, (lv • num r (idxOf tbl l α σ) +
    ∑ σ' ∈ range σ, U • (num r (idxOf tbl l α σ) * num r (idxOf tbl l α σ')))) ?_ ?_
  · refine forRange_adds _ _ hwf fun L1 i hi h1 => forRange_adds _ _ h1 fun L2 z1 hz1 h2 =>
      adds_then (adds_congr (adds_ite_store hnz h2 lv (tLevel l lv i z1) rfl)
        (termSem_tLevel r tbl l lv i z1)) fun hw => forRange_adds _ _ hw fun L3 z2 hz2 h4 => ?_
    exact adds_congr (adds_ite_store hnz h4 U _ (tNupNdown_value ..))
      (termSem_tNupNdown_ne r tbl l l U i i z1 z2 (by omega))
  · simp only [Finset.sum_add_distrib, Finset.smul_sum]
    rw [add_comm]

theorem addCoulombS_sem_two_spins (L L' : Lat.Lattice K) (l : String) (U lv : K) (a : Site)
    (ha : findSite L l = some a) (hsp : a.nspin = 2) (hwf : LatWF L)
    (h : addCoulombS L l U lv = .ok L') :
    Adds r tbl L L'
      (U • ∑ α ∈ range a.norb, num r (idxOf tbl l α spinUp) * num r (idxOf tbl l α spinDown) +
       lv • ∑ α ∈ range a.norb, (num r (idxOf tbl l α spinUp) + num r (idxOf tbl l α spinDown))) := by
  refine adds_congr (addCoulombS_sem hnz L L' l U lv a ha hwf h) ?_
  rw [hsp]
  -- the pair sums first: `sum_spins_two` would split their outer sum too
  simp only [sum_spin_pairs_two]
  simp only [sum_spins_two]

theorem addTerm_adds (L L' : Lat.Lattice K) (t : Term K) (hwf : LatWF L) (h : addTerm L t = .ok L') :
    Adds r tbl L L' (termSem r tbl t) := by
  obtain ⟨_, rfl⟩ := addTerm_ok h
  exact adds_ite_store hnz hwf _ t rfl

/-- **`addHopping` (7 arguments)** adds `t c†_{1} c_{2} + conj(t) c†_{2} c_{1}`. -/
theorem addHoppingFull_sem (cj : K → K) (L L' : Lat.Lattice K) (l1 l2 : String) (t : K)
    (o1 o2 s1 s2 : Nat) (hwf : LatWF L) (h : addHoppingFull cj L l1 l2 t o1 o2 s1 s2 = .ok L') :
    Adds r tbl L L'
      (t • (r.cd (idxOf tbl l1 o1 s1) * r.c (idxOf tbl l2 o2 s2)) +
       cj t • (r.cd (idxOf tbl l2 o2 s2) * r.c (idxOf tbl l1 o1 s1))) := by
  replace h := (ok_of_guarded h).2
  simp only [bind, Except.bind] at h
  split at h
  · cases h
  · rename_i L1 hL1
    have h1 := addTerm_adds (r := r) (tbl := tbl) hnz L L1 _ hwf hL1
    have h2 := addTerm_adds (r := r) (tbl := tbl) hnz L1 L' _ h1.1 h
    refine adds_congr (adds_trans h1 h2) ?_
    rw [termSem_tHopping, termSem_tHopping]

end OnSiteAndHopping

section Exchange
variable {K A : Type} [Field K] [NonzeroTest K] [Ring A] [Algebra K A]
variable {r : CARRep K A} {tbl : List Idx.IndexInfo}

theorem szsz_expand (J : K) (a a' b b' : A) :
    ((-J) / ((4 : Nat) : K)) • (a * b') + ((-J) / ((4 : Nat) : K)) • (a' * b) +
      ((J / ((4 : Nat) : K)) • (a * b) + (J / ((4 : Nat) : K)) • (a' * b')) =
    J • (((2 : K)⁻¹ • (a - a')) * ((2 : K)⁻¹ • (b - b'))) := by
  have h4 : ((4 : Nat) : K) = 2 * 2 := by norm_num
  rw [h4, smul_mul_smul_comm, smul_smul, ← mul_inv, ← div_eq_mul_inv, neg_div]
  simp only [sub_mul, mul_sub, smul_sub, neg_smul]
  abel

/-- the loop of `addSzSz` (shared with `addSS`) adds `J Σ_α S^z_{1α} S^z_{2α}` (for `l1 = l2` through
`n² = n`) -/
theorem szszLoop_sem (hcd : ∀ i, r.cd i * r.cd i = 0) (L : Lat.Lattice K) (l1 l2 : String) (J : K)
    (norb : Nat) (hwf : LatWF L) :
    Adds r tbl L (szszLoop L l1 l2 J norb)
      (J • ∑ α ∈ range norb,
        sZ r (idxOf tbl l1 α spinUp) (idxOf tbl l1 α spinDown) *
        sZ r (idxOf tbl l2 α spinUp) (idxOf tbl l2 α spinDown)) := by
  unfold szszLoop
  rw [Finset.smul_sum]
  refine forRange_adds _ _ hwf (fun L1 i hi h1 => ?_)
  dsimp only
  by_cases hl : l1 ≠ l2
  · rw [if_pos hl]
    refine adds_congr (adds_then (adds_store₂ h1 _ _) fun hw => adds_store₂ hw _ _) ?_
    simp only [termSem_tNupNdown r tbl hcd, addSzSz_updown, addSzSz_downup, addSzSz_upup,
      addSzSz_downdown]
    exact szsz_expand J _ _ _ _
  · rw [if_neg hl]
    obtain rfl : l1 = l2 := by simpa using hl
    refine adds_congr (adds_then (adds_store₂ h1 _ _) fun hw => adds_store₂ hw _ _) ?_
    simp only [termSem_tNupNdown r tbl hcd, termSem_tLevel, addSzSz_updown, addSzSz_downup,
      addSzSz_levelUp, addSzSz_levelDown]
    -- `J/4 n_↑ + J/4 n_↓` are the same-spin products, as `n² = n`
    have e := szsz_expand J (num r (idxOf tbl l1 i spinUp)) (num r (idxOf tbl l1 i spinDown))
      (num r (idxOf tbl l1 i spinUp)) (num r (idxOf tbl l1 i spinDown))
    rw [num_sq r hcd, num_sq r hcd] at e
    exact e

/-- **`addSzSz`** adds `J Σ_α S^z_{1α} S^z_{2α}` with `S^z = ½ (n_↑ − n_↓)`, also when both labels name
the same site (`szszLoop_sem`). -/
theorem addSzSz_sem (hcd : ∀ i, r.cd i * r.cd i = 0) (L L' : Lat.Lattice K) (l1 l2 : String) (J : K)
    (a : Site) (ha : findSite L l1 = some a) (hwf : LatWF L) (h : addSzSz L l1 l2 J = .ok L') :
    Adds r tbl L L'
      (J • ∑ α ∈ range a.norb,
        sZ r (idxOf tbl l1 α spinUp) (idxOf tbl l1 α spinDown) *
        sZ r (idxOf tbl l2 α spinUp) (idxOf tbl l2 α spinDown)) := by
  replace h := (ok_of_guarded h).2
  rw [guardEnv_orb1 L l1 l2 a ha] at h
  cases h
  exact szszLoop_sem hcd L l1 l2 J a.norb hwf

theorem ss_expand (J : K) (y z : A) :
    (J / ((2 : Nat) : K)) • y + (J / ((2 : Nat) : K)) • z = J • ((2 : K)⁻¹ • (y + z)) := by
  rw [Nat.cast_ofNat, div_eq_mul_inv, ← smul_add, mul_smul]

/-- **`addSS`** adds `J Σ_α [ S^z_{1α} S^z_{2α} + ½ (S⁺_{1α} S⁻_{2α} + S⁻_{1α} S⁺_{2α}) ]`, also when both
labels name the same site. -/
theorem addSS_sem (hcd : ∀ i, r.cd i * r.cd i = 0) (L L' : Lat.Lattice K) (l1 l2 : String) (J : K)
    (a : Site) (ha : findSite L l1 = some a) (hwf : LatWF L) (h : addSS L l1 l2 J = .ok L') :
    Adds r tbl L L'
      (J • ∑ α ∈ range a.norb,
        (sZ r (idxOf tbl l1 α spinUp) (idxOf tbl l1 α spinDown) *
           sZ r (idxOf tbl l2 α spinUp) (idxOf tbl l2 α spinDown) +
         (2 : K)⁻¹ •
          (sPlus r (idxOf tbl l1 α spinUp) (idxOf tbl l1 α spinDown) *
             sMinus r (idxOf tbl l2 α spinUp) (idxOf tbl l2 α spinDown) +
           sMinus r (idxOf tbl l1 α spinUp) (idxOf tbl l1 α spinDown) *
             sPlus r (idxOf tbl l2 α spinUp) (idxOf tbl l2 α spinDown)))) := by
  replace h := (ok_of_guarded h).2
  rw [guardEnv_orb1 L l1 l2 a ha] at h
  split at h
  · cases h
  · rename_i L1 hL1
    cases h
    -- what `addSzSz` adds, then per orbital `J/2 S⁺S⁻ + J/2 S⁻S⁺ = J ½ (S⁺S⁻ + S⁻S⁺)` (`ss_expand`; the
    -- type ascription makes the right side what the pass is said to add)
    refine adds_congr (adds_then (addSzSz_sem hcd L L1 l1 l2 J a ha hwf hL1) fun hw =>
      forRange_adds _ _ hw fun L2 i hi h3 => adds_congr (adds_store₂ h3 _ _)
        ((by rw [termSem_tSplusSminus, termSem_tSminusSplus]; exact ss_expand J _ _) : _ = J • _)) ?_
    simp only [Finset.smul_sum, ← Finset.sum_add_distrib, smul_add]

end Exchange

section Kanamori
variable {K A : Type} [Field K] [NonzeroTest K] [Ring A] [Algebra K A]
variable {r : CARRep K A} {tbl : List Idx.IndexInfo}

/-- The sums over the passes of the loops of `addCoulombP` -- orbital `i`, spin `z`, then the other
orbital `j` and the lower spin `z'` in two different nestings -- sorted by kind of term; for
arbitrary summands, so that nothing has to look into them. -/
theorem sum_loop_order (n m : Nat) (a : Nat → Nat → A) (b : Nat → Nat → Nat → A)
    (c : Nat → Nat → Nat → A) (d d' : Nat → Nat → Nat → Nat → A) :
    ∑ i ∈ range n, ∑ z ∈ range m, (a i z + (∑ j ∈ range n, if i ≠ j then b i j z else 0) +
        ∑ z' ∈ range z, (c i z z' +
          ∑ j ∈ range n, if i ≠ j then d i j z z' + d' i j z z' else 0)) =
      ∑ i ∈ range n, ∑ z ∈ range m, a i z +
      ∑ i ∈ range n, ∑ j ∈ range n with i ≠ j, ∑ z ∈ range m, b i j z +
      ∑ i ∈ range n, ∑ z ∈ range m, ∑ z' ∈ range z, c i z z' +
      (∑ i ∈ range n, ∑ j ∈ range n with i ≠ j, ∑ z ∈ range m, ∑ z' ∈ range z, d i j z z' +
       ∑ i ∈ range n, ∑ j ∈ range n with i ≠ j, ∑ z ∈ range m, ∑ z' ∈ range z, d' i j z z') := by
  have step : ∀ i z, (a i z + (∑ j ∈ range n, if i ≠ j then b i j z else 0) +
        ∑ z' ∈ range z, (c i z z' +
          ∑ j ∈ range n, if i ≠ j then d i j z z' + d' i j z z' else 0)) =
      a i z + (∑ j ∈ range n with i ≠ j, b i j z) + ∑ z' ∈ range z, c i z z' +
        ∑ j ∈ range n with i ≠ j, ∑ z' ∈ range z, (d i j z z' + d' i j z z') := fun i z => by
    rw [Finset.sum_add_distrib, ← add_assoc]
    congr 1
    · rw [Finset.sum_filter]
    · exact (Finset.sum_congr rfl fun z' _ => (Finset.sum_filter _ _).symm).trans Finset.sum_comm
  have e : ∀ f : Nat → Nat → Nat → A,
      ∑ i ∈ range n, ∑ z ∈ range m, ∑ j ∈ range n with i ≠ j, f i j z =
      ∑ i ∈ range n, ∑ j ∈ range n with i ≠ j, ∑ z ∈ range m, f i j z :=
    fun f => Finset.sum_congr rfl fun i _ => Finset.sum_comm
  rw [Finset.sum_congr rfl fun i _ => Finset.sum_congr rfl fun z _ => step i z]
  simp only [Finset.sum_add_distrib]
  rw [e, e, e]

/-- what one pass `(i, z1)` of the loops of `addCoulombP` adds -/
def kanamoriPass (r : CARRep K A) (idx : Nat → Nat → Nat) (norb : Nat) (U Up J lv : K) (i z1 : Nat) : A :=
  lv • num r (idx i z1) +
  (∑ j ∈ range norb, if i ≠ j then ((Up - J) / 2) • (num r (idx i z1) * num r (idx j z1)) else 0) +
  ∑ z2 ∈ range z1, (U • (num r (idx i z1) * num r (idx i z2)) +
    ∑ j ∈ range norb, if i ≠ j then
      (Up • (num r (idx i z1) * num r (idx j z2)) +
        (-J) • (spinflipOp r idx i j z1 z2 + pairhopOp r idx i j z1 z2)) else 0)

theorem kanamori_sum_passes (idx : Nat → Nat → Nat) (norb nspin : Nat) (U Up J lv : K) :
    ∑ i ∈ range norb, ∑ z1 ∈ range nspin, kanamoriPass r idx norb U Up J lv i z1 =
      kanamoriOp r idx norb nspin U Up J lv := by
  unfold kanamoriPass kanamoriOp
  rw [sum_loop_order]
  simp only [← Finset.smul_sum]
  abel

variable (hnz : ∀ x : K, NonzeroTest.nz x = false → x = 0)
include hnz

/-- **`addCoulombP` (Kanamori)** adds the operator `kanamoriOp` documented in `LatticePresets.h`, for
every number of orbitals and of spin components.  (In the comment the pair-hopping term is written
`c†_{α'σ} c†_{α'σ'} c_{ασ} c_{ασ'}`, i.e. with `α` and `α'` exchanged: the same operator, because the sum
runs over ordered pairs -- `pairhop_sum_swap`.) -/
theorem addCoulombP_sem (L L' : Lat.Lattice K) (l : String) (U Up J lv : K) (a : Site)
    (ha : findSite L l = some a) (hwf : LatWF L) (h : addCoulombP L l U Up J lv = .ok L') :
    Adds r tbl L L' (kanamoriOp r (idxOf tbl l) a.norb a.nspin U Up J lv) := by
  replace h := (ok_of_guarded h).2
  rw [guardEnv_orb1 L l l a ha, guardEnv_spin1 L l l a ha] at h
  dsimp only at h
  rw [← kanamori_sum_passes]
  refine rangeM_adds _ L L' hwf (fun L1 i L1' hi h1 hs1 => ?_) h
  refine rangeM_adds _ L1 L1' h1 (fun L2 z1 L2' hz1 h2 hs2 => ?_) hs1
  unfold kanamoriPass
  -- the level term, then the same-spin terms, then the loop over the lower spins
  refine adds_then (adds_then (adds_congr (adds_ite_store hnz h2 lv (tLevel l lv i z1) rfl)
      (termSem_tLevel r tbl l lv i z1)) fun hw => forRange_adds _ _ hw fun L4 j hj h4 => ?_)
    fun hw => rangeM_adds _ _ L2' hw (fun L3 z2 L3' hz2 h3 hs3 => ?_) hs2
  · by_cases hij : i ≠ j
    · rw [if_pos hij, if_pos hij]
      refine adds_congr (adds_store h4 _) ?_
      rw [termSem_tNupNdown_ne r tbl l l _ i j z1 z1 (fun hh => hij hh.2.2), addCoulombP_sameSpin,
        Nat.cast_ofNat]
    · rw [if_neg hij, if_neg hij]
      exact adds_refl h4
  refine adds_then (adds_congr (adds_ite_store hnz h3 U (tNupNdown l l U i i z1 z2)
      (tNupNdown_value ..)) (termSem_tNupNdown_ne r tbl l l U i i z1 z2 (by omega)))
    fun hw => rangeM_adds _ _ L3' hw (fun L5 j L5' hj h5 hs5 => ?_) hs3
  by_cases hij : i ≠ j
  · rw [if_pos hij] at hs5 ⊢
    refine adds_then (adds_congr (adds_ite_store hnz h5 Up (tNupNdown l l Up i j z1 z2)
      (tNupNdown_value ..)) (termSem_tNupNdown_ne r tbl l l Up i j z1 z2 (fun hh => hij hh.2.2)))
      fun hw => ?_
    -- `i ≠ j` and `z2 < z1`: neither `Spinflip` nor `PairHopping` throws
    rw [tSpinflip_of_ne _ _ hij (Nat.ne_of_gt hz2), tPairHopping_of_ne _ _ hij (Nat.ne_of_gt hz2)]
      at hs5
    by_cases hJ : NonzeroTest.nz J = true
    · rw [if_pos hJ] at hs5
      cases hs5
      refine adds_congr (adds_store₂ hw _ _) ?_
      simp only [smul_add, termSem_four]
      rfl
    · rw [if_neg hJ] at hs5
      cases hs5
      rw [hnz J (by simpa using hJ), neg_zero, zero_smul]
      exact adds_refl hw
  · rw [if_neg hij] at hs5 ⊢
    cases hs5
    exact adds_refl h5

end Kanamori

section IndexTable

theorem spinModes_of_mem (tbl : List Idx.IndexInfo) (P : Finset (String × Nat))
    (hP : ∀ p ∈ P, (⟨p.1, p.2, spinUp⟩ : Idx.IndexInfo) ∈ tbl ∧
      (⟨p.1, p.2, spinDown⟩ : Idx.IndexInfo) ∈ tbl) :
    SpinModes P (fun p => idxOf tbl p.1 p.2 spinUp) (fun p => idxOf tbl p.1 p.2 spinDown) := by
  refine ⟨fun p hp q hq h => ?_, fun p hp q hq h => ?_, fun p hp q hq h => ?_⟩
  · injection IndexBij.getIndex_inj (hP p hp).1 h with h1 h2 _
    exact Prod.ext h1 h2
  · injection IndexBij.getIndex_inj (hP p hp).2 h with h1 h2 _
    exact Prod.ext h1 h2
  · injection IndexBij.getIndex_inj (hP p hp).1 h with _ _ h3
    exact absurd h3 (by decide)

def allOrbitals (sites : List Site) : Finset (String × Nat) :=
  (sites.flatMap fun s => (List.range s.norb).map fun α => (s.label, α)).toFinset

theorem mem_allOrbitals (sites : List Site) (p : String × Nat) :
    p ∈ allOrbitals sites ↔ ∃ s ∈ sites, s.label = p.1 ∧ p.2 < s.norb := by
  unfold allOrbitals
  simp only [List.mem_toFinset, List.mem_flatMap, List.mem_map, List.mem_range]
  constructor
  · rintro ⟨s, hs, α, hα, rfl⟩; exact ⟨s, hs, rfl, hα⟩
  · rintro ⟨s, hs, h1, h2⟩; exact ⟨s, hs, p.2, h2, by rw [h1]⟩

theorem mem_allOrbitals_of_findSite {K : Type} {L : Lat.Lattice K} {l : String} {a : Site}
    (ha : findSite L l = some a) {α : Nat} (hα : α < a.norb) : (l, α) ∈ allOrbitals L.sites :=
  (mem_allOrbitals _ _).2 ⟨a, (findSite_mem L l a ha).1, (findSite_mem L l a ha).2, hα⟩

theorem allOrbitals_in_table (sites : List Site) (hd : (sites.map (·.label)).Nodup) (mode : Bool)
    (hs : ∀ s ∈ sites, 2 ≤ s.nspin) :
    ∀ p ∈ allOrbitals sites,
      (⟨p.1, p.2, spinUp⟩ : Idx.IndexInfo) ∈ Idx.enumerate sites mode ∧
      (⟨p.1, p.2, spinDown⟩ : Idx.IndexInfo) ∈ Idx.enumerate sites mode := by
  have _ := hd  -- not needed for the proof
  intro p hp
  rw [mem_allOrbitals] at hp
  obtain ⟨s, hs', h1, h2⟩ := hp
  have := hs s hs'
  constructor
  · rw [IndexBij.enumerate_mem]
    exact ⟨s, hs', h1, h2, by show 1 < s.nspin; omega⟩
  · rw [IndexBij.enumerate_mem]
    exact ⟨s, hs', h1, h2, by show 0 < s.nspin; omega⟩

end IndexTable

section SU2Lattice
variable {K A : Type} [Field K] [Ring A] [Algebra K A]
variable (r : CARRep K A) (tbl : List Idx.IndexInfo)

/-- single-particle index of spin up / down of the orbital `p = (site label, orbital)` -/
def upIdx (p : String × Nat) : Nat := idxOf tbl p.1 p.2 spinUp
def dnIdx (p : String × Nat) : Nat := idxOf tbl p.1 p.2 spinDown

def latSplus (P : Finset (String × Nat)) : A := totalSplus r P (upIdx tbl) (dnIdx tbl)
def latSminus (P : Finset (String × Nat)) : A := totalSminus r P (upIdx tbl) (dnIdx tbl)

def InTable (P : Finset (String × Nat)) : Prop :=
  ∀ p ∈ P, (⟨p.1, p.2, spinUp⟩ : Idx.IndexInfo) ∈ tbl ∧ (⟨p.1, p.2, spinDown⟩ : Idx.IndexInfo) ∈ tbl

def ssLatOp (l1 l2 : String) (n : Nat) (J : K) : A :=
  ssOp r (fun α => idxOf tbl l1 α spinUp) (fun α => idxOf tbl l1 α spinDown)
    (fun α => idxOf tbl l2 α spinUp) (fun α => idxOf tbl l2 α spinDown) n J

variable {r tbl}

section
variable {P : Finset (String × Nat)} (hP : InTable tbl P) (l : String) (n : Nat)
  (hl : ∀ α < n, (l, α) ∈ P)
include hP hl

theorem spinRaise_lat :
    SpinRaise r (latSplus r tbl P) (fun α => idxOf tbl l α spinUp) (fun α => idxOf tbl l α spinDown) n :=
  spinRaise_total (spinModes_of_mem tbl P hP) (fun α => (l, α)) n hl

theorem spinLower_lat :
    SpinRaise r (latSminus r tbl P) (fun α => idxOf tbl l α spinDown) (fun α => idxOf tbl l α spinUp) n :=
  spinRaise_total (spinModes_of_mem tbl P hP).swap (fun α => (l, α)) n hl

theorem modesDistinct_lat :
    ModesDistinct (fun α => idxOf tbl l α spinUp) (fun α => idxOf tbl l α spinDown) n :=
  modesDistinct_total (spinModes_of_mem tbl P hP) (fun α => (l, α)) n hl
    (fun _ _ _ _ h => (Prod.ext_iff.mp h).2)

end

/-- **SU(2) invariance of the Kanamori interaction**: for every number of orbitals and all `U`, `U'`,
`J`, `ε` the operator `addCoulombP` adds to a site with two spin components commutes with `S⁺` and
`S⁻` of every set `P` of orbitals of the lattice that contains the orbitals of the site (in
particular: all orbitals of all sites). -/
theorem kanamori_su2 (hc : ∀ i, r.c i * r.c i = 0) (hcd : ∀ i, r.cd i * r.cd i = 0)
    (h2 : (2 : K) ≠ 0) {P : Finset (String × Nat)} (hP : InTable tbl P) (l : String) (n : Nat)
    (hl : ∀ α < n, (l, α) ∈ P) (U Up J lv : K) :
    cm (kanamoriOp r (idxOf tbl l) n 2 U Up J lv) (latSplus r tbl P) = 0 ∧
    cm (kanamoriOp r (idxOf tbl l) n 2 U Up J lv) (latSminus r tbl P) = 0 := by
  rw [kanamoriOp_two_spins]
  refine ⟨kanamoriUD_commutes hc hcd h2 (spinRaise_lat hP l n hl) (modesDistinct_lat hP l n hl) .., ?_⟩
  -- `S⁻` raises the spin once the names of the two components are exchanged
  rw [← kanamoriUD_swap]
  exact kanamoriUD_commutes hc hcd h2 (spinLower_lat hP l n hl)
    (modesDistinct_lat hP l n hl).swap ..

/-- **SU(2) invariance of the spin-spin exchange** between two sites, or on one site (`l1 = l2`). -/
theorem ss_su2 (h2 : (2 : K) ≠ 0) {P : Finset (String × Nat)} (hP : InTable tbl P) (l1 l2 : String)
    (n : Nat) (hl1 : ∀ α < n, (l1, α) ∈ P) (hl2 : ∀ α < n, (l2, α) ∈ P) (J : K) :
    cm (ssLatOp r tbl l1 l2 n J) (latSplus r tbl P) = 0 ∧
    cm (ssLatOp r tbl l1 l2 n J) (latSminus r tbl P) = 0 := by
  constructor
  · exact ss_commutes h2 (spinRaise_lat hP l1 n hl1) (spinRaise_lat hP l2 n hl2) J
  · unfold ssLatOp
    rw [← ssOp_spin_swap]
    exact ss_commutes h2 (spinLower_lat hP l1 n hl1) (spinLower_lat hP l2 n hl2) J

end SU2Lattice

section Documented
variable {K A : Type} [Field K] [Ring A] [Algebra K A]

/-- documented for `addLevel`: `ε Σ_{α,σ} n_{ασ}` -/
def levelOp (r : CARRep K A) (idx : Nat → Nat → Nat) (norb nspin : Nat) (lv : K) : A :=
  lv • ∑ α ∈ range norb, ∑ σ ∈ range nspin, num r (idx α σ)

/-- what `addMagnetization` adds: `mH Σ_α (n_{α↑} − n_{α↓})` (documented: half of it) -/
def magnetOp (r : CARRep K A) (idx : Nat → Nat → Nat) (norb : Nat) (mH : K) : A :=
  mH • ∑ α ∈ range norb, (num r (idx α spinUp) - num r (idx α spinDown))

/-- documented for `addCoulombS`: `U Σ_{α,σ>σ'} n_{ασ} n_{ασ'} + ε Σ_{α,σ} n_{ασ}` -/
def coulombSOp (r : CARRep K A) (idx : Nat → Nat → Nat) (norb nspin : Nat) (U lv : K) : A :=
  U • (∑ α ∈ range norb, ∑ σ ∈ range nspin, ∑ σ' ∈ range σ, num r (idx α σ) * num r (idx α σ')) +
  lv • (∑ α ∈ range norb, ∑ σ ∈ range nspin, num r (idx α σ))

def hopOp (r : CARRep K A) (x y : Nat) (t t' : K) : A :=
  t • (r.cd x * r.c y) + t' • (r.cd y * r.c x)

end Documented

section NamedOperators
variable {K A : Type} [Field K] [NonzeroTest K] [Ring A] [Algebra K A]
variable {r : CARRep K A} {tbl : List Idx.IndexInfo}
variable (hnz : ∀ x : K, NonzeroTest.nz x = false → x = 0)
include hnz

theorem addLevel_adds (L L' : Lat.Lattice K) (l : String) (lv : K) (a : Site)
    (ha : findSite L l = some a) (hwf : LatWF L) (h : addLevel L l lv = .ok L') :
    Adds r tbl L L' (levelOp r (idxOf tbl l) a.norb a.nspin lv) :=
  addLevel_sem hnz L L' l lv a ha hwf h

omit hnz in
theorem addMagnetization_adds (L L' : Lat.Lattice K) (l : String) (mH : K) (a : Site)
    (ha : findSite L l = some a) (hwf : LatWF L) (h : addMagnetization L l mH = .ok L') :
    Adds r tbl L L' (magnetOp r (idxOf tbl l) a.norb mH) :=
  addMagnetization_sem L L' l mH a ha hwf h

theorem addCoulombS_adds (L L' : Lat.Lattice K) (l : String) (U lv : K) (a : Site)
    (ha : findSite L l = some a) (hwf : LatWF L) (h : addCoulombS L l U lv = .ok L') :
    Adds r tbl L L' (coulombSOp r (idxOf tbl l) a.norb a.nspin U lv) :=
  addCoulombS_sem hnz L L' l U lv a ha hwf h

/-- the 5-argument overload of `addCoulombP`: `U' = U − 2J` -/
theorem addCoulombP'_sem (L L' : Lat.Lattice K) (l : String) (U J lv : K) (a : Site)
    (ha : findSite L l = some a) (hwf : LatWF L) (h : addCoulombP' L l U J lv = .ok L') :
    Adds r tbl L L' (kanamoriOp r (idxOf tbl l) a.norb a.nspin U (U - 2 * J) J lv) := by
  have := addCoulombP_sem (r := r) (tbl := tbl) hnz L L' l U (addCoulombP_Up U J) J lv a ha hwf h
  rw [addCoulombP_Up, Nat.cast_ofNat] at this
  exact this

omit hnz in
theorem addSzSz_adds (hcd : ∀ i, r.cd i * r.cd i = 0) (L L' : Lat.Lattice K) (l1 l2 : String) (J : K)
    (a : Site) (ha : findSite L l1 = some a) (hwf : LatWF L) (h : addSzSz L l1 l2 J = .ok L') :
    Adds r tbl L L' (szszOp r (fun α => idxOf tbl l1 α spinUp) (fun α => idxOf tbl l1 α spinDown)
      (fun α => idxOf tbl l2 α spinUp) (fun α => idxOf tbl l2 α spinDown) a.norb J) :=
  addSzSz_sem hcd L L' l1 l2 J a ha hwf h

omit hnz in
theorem addSS_adds (hcd : ∀ i, r.cd i * r.cd i = 0) (L L' : Lat.Lattice K) (l1 l2 : String) (J : K)
    (a : Site) (ha : findSite L l1 = some a) (hwf : LatWF L) (h : addSS L l1 l2 J = .ok L') :
    Adds r tbl L L' (ssLatOp r tbl l1 l2 a.norb J) :=
  addSS_sem hcd L L' l1 l2 J a ha hwf h

theorem addHoppingFull_adds (cj : K → K) (L L' : Lat.Lattice K) (l1 l2 : String) (t : K)
    (o1 o2 s1 s2 : Nat) (hwf : LatWF L) (h : addHoppingFull cj L l1 l2 t o1 o2 s1 s2 = .ok L') :
    Adds r tbl L L' (hopOp r (idxOf tbl l1 o1 s1) (idxOf tbl l2 o2 s2) t (cj t)) :=
  addHoppingFull_sem hnz cj L L' l1 l2 t o1 o2 s1 s2 hwf h

/-- **`addHopping` (5 arguments, all spin components)** adds
`Σ_σ (t c†_{1ασ} c_{2α'σ} + conj(t) c†_{2α'σ} c_{1ασ})`. -/
theorem addHoppingOrb_adds (cj : K → K) (L L' : Lat.Lattice K) (l1 l2 : String) (t : K)
    (o1 o2 : Nat) (a : Site) (ha : findSite L l1 = some a) (hwf : LatWF L)
    (h : addHoppingOrb cj L l1 l2 t o1 o2 = .ok L') :
    Adds r tbl L L' (∑ σ ∈ range a.nspin, hopOp r (idxOf tbl l1 o1 σ) (idxOf tbl l2 o2 σ) t (cj t)) := by
  replace h := (ok_of_guarded h).2
  rw [guardEnv_spin1 L l1 l2 a ha] at h
  exact rangeM_adds _ L L' hwf
    (fun s z s' _ hs hr => addHoppingFull_adds hnz cj s s' l1 l2 t o1 o2 z z hs hr) h

/-- **`addHopping` (4 arguments, all orbitals and spin components)** adds
`Σ_{α,σ} (t c†_{1ασ} c_{2ασ} + conj(t) c†_{2ασ} c_{1ασ})`. -/
theorem addHoppingAll_adds (cj : K → K) (L L' : Lat.Lattice K) (l1 l2 : String) (t : K)
    (a : Site) (ha : findSite L l1 = some a) (hwf : LatWF L)
    (h : addHoppingAll cj L l1 l2 t = .ok L') :
    Adds r tbl L L' (∑ σ ∈ range a.nspin, ∑ α ∈ range a.norb,
      hopOp r (idxOf tbl l1 α σ) (idxOf tbl l2 α σ) t (cj t)) := by
  replace h := (ok_of_guarded h).2
  rw [guardEnv_spin1 L l1 l2 a ha, guardEnv_orb1 L l1 l2 a ha] at h
  exact rangeM_adds _ L L' hwf
    (fun s z s' _ hs hr => rangeM_adds _ s s' hs
      (fun s2 i s2' _ hs2 hr2 => addHoppingFull_adds hnz cj s2 s2' l1 l2 t i i z z hs2 hr2) hr) h

end NamedOperators

section Hermitian
variable {K A : Type} [Field K] [StarRing K] [Ring A] [StarRing A] [Algebra K A] [StarModule K A]

theorem offdiag_selfAdjoint (n : Nat) (f : Nat → Nat → A) (hf : ∀ α β, star (f α β) = f β α) :
    IsSelfAdjoint (∑ α ∈ range n, ∑ β ∈ range n with α ≠ β, f α β) := by
  unfold IsSelfAdjoint
  rw [star_sum, offdiag_swap]
  refine Finset.sum_congr rfl (fun α _ => ?_)
  rw [star_sum]
  exact Finset.sum_congr rfl (fun β _ => hf α β)

variable (r : CARRep K A) (hs : ∀ i, star (r.c i) = r.cd i)
include hs

theorem star_cd (i : Nat) : star (r.cd i) = r.c i := by rw [← hs, star_star]

theorem num_selfAdjoint (x : Nat) : IsSelfAdjoint (num r x) := by
  unfold IsSelfAdjoint num; rw [star_mul, hs, star_cd r hs]

theorem num_num_selfAdjoint (x y : Nat) : IsSelfAdjoint (num r x * num r y) := by
  unfold IsSelfAdjoint
  rw [star_mul, num_selfAdjoint r hs, num_selfAdjoint r hs, num_num_comm]

omit hs in
theorem two_inv_selfAdjoint : IsSelfAdjoint ((2 : K)⁻¹) := .inv₀ (.ofNat 2)

theorem levelOp_selfAdjoint (idx : Nat → Nat → Nat) (norb nspin : Nat) (lv : K) (hlv : star lv = lv) :
    IsSelfAdjoint (levelOp r idx norb nspin lv) :=
  IsSelfAdjoint.smul hlv (isSelfAdjoint_sum _ fun _ _ => isSelfAdjoint_sum _ fun _ _ =>
    num_selfAdjoint r hs _)

theorem magnetOp_selfAdjoint (idx : Nat → Nat → Nat) (norb : Nat) (mH : K) (hm : star mH = mH) :
    IsSelfAdjoint (magnetOp r idx norb mH) :=
  IsSelfAdjoint.smul hm (isSelfAdjoint_sum _ fun _ _ =>
    (num_selfAdjoint r hs _).sub (num_selfAdjoint r hs _))

theorem coulombSOp_selfAdjoint (idx : Nat → Nat → Nat) (norb nspin : Nat) (U lv : K)
    (hU : star U = U) (hlv : star lv = lv) : IsSelfAdjoint (coulombSOp r idx norb nspin U lv) :=
  (IsSelfAdjoint.smul hU (isSelfAdjoint_sum _ fun _ _ => isSelfAdjoint_sum _ fun _ _ =>
    isSelfAdjoint_sum _ fun _ _ => num_num_selfAdjoint r hs _ _)).add
  (levelOp_selfAdjoint r hs idx norb nspin lv hlv)

theorem hopOp_selfAdjoint (x y : Nat) (t : K) : IsSelfAdjoint (hopOp r x y t (star t)) := by
  have e : star (t • (r.cd x * r.c y)) = star t • (r.cd y * r.c x) := by
    rw [star_smul, star_mul, hs, star_cd r hs]
  unfold hopOp
  rw [← e]
  exact IsSelfAdjoint.add_star_self _

theorem star_four (a b x y : Nat) :
    star (r.cd a * r.cd b * r.c x * r.c y) = r.cd x * r.cd y * r.c a * r.c b := by
  simp only [star_mul, hs, star_cd r hs, ← mul_assoc]
  exact four_swap r _ _ _ _

/-- The density sums are self-adjoint term by term; `star` exchanges the two orbitals of a spin-flip and
of a pair-hopping term, and the sum runs over ordered pairs. -/
theorem kanamoriOp_selfAdjoint (idx : Nat → Nat → Nat) (norb nspin : Nat) (U Up J lv : K)
    (hU : star U = U) (hUp : star Up = Up) (hJ : star J = J) (hlv : star lv = lv) :
    IsSelfAdjoint (kanamoriOp r idx norb nspin U Up J lv) := by
  have hUJ : IsSelfAdjoint ((Up - J) / 2) := (IsSelfAdjoint.sub hUp hJ).div (IsSelfAdjoint.ofNat 2)
  refine ((((IsSelfAdjoint.smul hU ?_).add (IsSelfAdjoint.smul hUp ?_)).add
    (IsSelfAdjoint.smul hUJ ?_)).add (IsSelfAdjoint.smul (IsSelfAdjoint.neg hJ) ?_)).add
    (levelOp_selfAdjoint r hs idx norb nspin lv hlv)
  · exact isSelfAdjoint_sum _ fun α _ => isSelfAdjoint_sum _ fun σ _ =>
      isSelfAdjoint_sum _ fun σ' _ => num_num_selfAdjoint r hs _ _
  · exact isSelfAdjoint_sum _ fun α _ => isSelfAdjoint_sum _ fun β _ =>
      isSelfAdjoint_sum _ fun σ _ => isSelfAdjoint_sum _ fun σ' _ => num_num_selfAdjoint r hs _ _
  · exact isSelfAdjoint_sum _ fun α _ => isSelfAdjoint_sum _ fun β _ =>
      isSelfAdjoint_sum _ fun σ _ => num_num_selfAdjoint r hs _ _
  · refine offdiag_selfAdjoint norb _ fun α β => ?_
    rw [star_sum]
    refine Finset.sum_congr rfl fun σ _ => ?_
    rw [star_sum]
    refine Finset.sum_congr rfl fun σ' _ => ?_
    exact (star_add _ _).trans (congrArg₂ (· + ·) (star_four r hs ..) (star_four r hs ..))

theorem sZ_selfAdjoint (u d : Nat) : IsSelfAdjoint (sZ r u d) :=
  IsSelfAdjoint.smul two_inv_selfAdjoint ((num_selfAdjoint r hs u).sub (num_selfAdjoint r hs d))

omit hs in
theorem sZ_comm (u d u' d' : Nat) : sZ r u d * sZ r u' d' = sZ r u' d' * sZ r u d := by
  have hn : ∀ x y, Commute (num r x) (num r y) := num_num_comm r
  unfold sZ
  exact ((((hn u u').sub_right (hn u d')).sub_left ((hn d u').sub_right (hn d d'))).smul_left _).smul_right _

theorem sZ_sZ_selfAdjoint (u d u' d' : Nat) : IsSelfAdjoint (sZ r u d * sZ r u' d') := by
  unfold IsSelfAdjoint
  rw [star_mul, sZ_selfAdjoint r hs, sZ_selfAdjoint r hs, sZ_comm]

theorem star_sPlus (u d : Nat) : star (sPlus r u d) = sMinus r u d := by
  unfold sPlus sMinus; rw [star_mul, hs, star_cd r hs]

theorem star_sMinus (u d : Nat) : star (sMinus r u d) = sPlus r u d := by
  unfold sPlus sMinus; rw [star_mul, hs, star_cd r hs]

theorem szszOp_selfAdjoint (u1 d1 u2 d2 : Nat → Nat) (n : Nat) (J : K) (hJ : star J = J) :
    IsSelfAdjoint (szszOp r u1 d1 u2 d2 n J) :=
  IsSelfAdjoint.smul hJ (isSelfAdjoint_sum _ fun _ _ => sZ_sZ_selfAdjoint r hs _ _ _ _)

omit hs in
theorem hop_hop_comm (a b x y : Nat) (h1 : b ≠ x) (h2 : y ≠ a) :
    (r.cd a * r.c b) * (r.cd x * r.c y) = (r.cd x * r.c y) * (r.cd a * r.c b) :=
  sub_eq_zero.mp (by
    rw [← cm, cm_mul, cm_c_hop, cm_cd_hop, if_neg h1, if_neg h2, mul_zero, zero_mul, add_zero])

/-- `addSS` on one site: `S⁺ S⁻` and `S⁻ S⁺` are each self-adjoint -/
theorem ssOp_selfAdjoint_same_site (u d : Nat → Nat) (n : Nat) (J : K) (hJ : star J = J) :
    IsSelfAdjoint (ssOp r u d u d n J) := by
  refine IsSelfAdjoint.smul hJ (isSelfAdjoint_sum _ fun α _ =>
    (sZ_sZ_selfAdjoint r hs _ _ _ _).add (IsSelfAdjoint.smul two_inv_selfAdjoint (.add ?_ ?_)))
  · rw [← star_sPlus r hs]; exact IsSelfAdjoint.mul_star_self _
  · rw [← star_sMinus r hs]; exact IsSelfAdjoint.mul_star_self _

/-- `addSS` between two different sites: `star` exchanges `S⁺₁ S⁻₂` and `S⁻₁ S⁺₂`, operators of different
sites commuting -/
theorem ssOp_selfAdjoint_two_sites (u1 d1 u2 d2 : Nat → Nat) (n : Nat) (J : K) (hJ : star J = J)
    (hu : ∀ α < n, u1 α ≠ u2 α) (hd : ∀ α < n, d1 α ≠ d2 α) :
    IsSelfAdjoint (ssOp r u1 d1 u2 d2 n J) := by
  refine IsSelfAdjoint.smul hJ (isSelfAdjoint_sum _ fun α hα =>
    (sZ_sZ_selfAdjoint r hs _ _ _ _).add (IsSelfAdjoint.smul two_inv_selfAdjoint ?_))
  rw [Finset.mem_range] at hα
  have e : star (sPlus r (u1 α) (d1 α) * sMinus r (u2 α) (d2 α)) =
      sMinus r (u1 α) (d1 α) * sPlus r (u2 α) (d2 α) := by
    rw [star_mul, star_sMinus r hs, star_sPlus r hs]
    exact hop_hop_comm r (u2 α) (d2 α) (d1 α) (u1 α) (hd α hα).symm (hu α hα)
  rw [← e]
  exact IsSelfAdjoint.add_star_self _

end Hermitian

section DocForm
variable {K A : Type} [Field K] [Ring A] [Algebra K A]

/-- The pair-hopping sum as written in the comment of `LatticePresets.h`
(`c†_{α'σ} c†_{α'σ'} c_{ασ} c_{ασ'}`, summed over ordered pairs `α ≠ α'`) is the sum the code stores
(`c†_{ασ} c†_{ασ'} c_{α'σ} c_{α'σ'}`). -/
theorem pairhop_sum_swap (r : CARRep K A) (idx : Nat → Nat → Nat) (norb nspin : Nat) :
    ∑ α ∈ range norb, ∑ β ∈ range norb with α ≠ β, ∑ σ ∈ range nspin, ∑ σ' ∈ range σ,
        pairhopOp r idx β α σ σ' =
    ∑ α ∈ range norb, ∑ β ∈ range norb with α ≠ β, ∑ σ ∈ range nspin, ∑ σ' ∈ range σ,
        pairhopOp r idx α β σ σ' :=
  (offdiag_swap norb (fun α β => ∑ σ ∈ range nspin, ∑ σ' ∈ range σ, pairhopOp r idx α β σ σ')).symm

end DocForm

end Pomerol.Spec.PresetSem
