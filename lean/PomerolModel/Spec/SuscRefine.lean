/-
  Refinement: the LOOP STRUCTURE of the dynamical-susceptibility code computes the bosonic Lehmann sum.

  `Model/SuscPart.lean` models `SusceptibilityPart::compute` (the sparse-row walk of
  `GreensFunctionPart::compute` -- literally `GFPart.compute` -- followed by the bosonic loop body:
  zero-pole branch / residue filter / term) and `Susceptibility::prepare` (literally `GFPart.prepare`).
  Here: what the loop body accumulates pair by pair (`pairVal`); one part and the whole structure compute
  the sum of `pairVal` over ALL pairs of eigenstates, for any zero-pole test and any tolerance
  (`susc_loops_compute_pair_sum`); with an exact degeneracy test and no residue filter this is the
  definition, with the extracted tests it is `suscWithTolerances` of `Spec/SuscTol.lean`.

  The zero-pole weight of a part enters its value as `ZeroPoleWeight * s` with `s = β` at `k = 0` and
  `s = 0` otherwise -- the idealisation of `abs(z) < 1e-15` used by `Bridge.susc_sum`;
  `susceptibilityValue_eq` removes it (needs `β ≤ 10¹⁵`; used by
  `C14.loops_and_evaluation_compute_susceptibility`).
-/
import PomerolModel.Model.SuscPart
import PomerolModel.Spec.GFRefine
import PomerolModel.Spec.SuscTol

namespace Pomerol.Spec.SuscRefine
open Pomerol.Model.Chase Pomerol.Model.TermList Pomerol.Spec.GFRefine
open Pomerol.Model.GFPart (SpMat SpVec Contribution)
open Pomerol.Model.SuscPart

/-- the value at `z` of a stored term (extracted `SusceptibilityPart::Term::operator()(z)`) -/
noncomputable def suscTermValue (z : ℂ) (t : Term ℂ ℝ) : ℂ := Gen.Susc.termFreq t.res t.pole z

/-- What the loop body of `SusceptibilityPart::compute` does with one pair (outer state `wo`, `eo`;
inner state `wi`, `ei`; `a = <outer|A|inner>`, `b = <inner|B|outer>`): zero-pole test `zero` first (then
`a b wo · s`, where `s` is `β` at the static frequency and `0` otherwise), else the residue filter with
tolerance `tol`, else the term `−R/(z − P)`.  All formulas are the extracted ones. -/
noncomputable def pairVal (zero : ℝ → Bool) (tol : ℝ) (s z : ℂ) (wo wi eo ei : ℝ) (a b : ℂ) : ℂ :=
  if zero (Gen.Susc.pole ei eo) = true then Gen.Susc.zeroPoleIncrement a b wo * s
  else if Gen.Susc.residueKept (Gen.Susc.residue a b wo wi) tol = true then
    Gen.Susc.termFreq (Gen.Susc.residue a b wo wi) (Gen.Susc.pole ei eo) z
  else 0

theorem pairVal_eq_zero {a b : ℂ} (h : a = 0 ∨ b = 0) (zero : ℝ → Bool) (tol : ℝ) (s z : ℂ)
    (wo wi eo ei : ℝ) : pairVal zero tol s z wo wi eo ei a b = 0 := by
  unfold pairVal
  rw [Bridge.susc_zeroPole, Bridge.susc_residue, Bridge.susc_termFreq]
  rcases h with rfl | rfl <;> simp

/-- the value of a part in state `st`: `Terms(z) + ZeroPoleWeight * s` -/
noncomputable def stateVal (s z : ℂ) (st : PartState ℂ ℝ) : ℂ :=
  (st.1.map (suscTermValue z)).sum + st.2 * s

theorem stateVal_classify (zero : ℝ → Bool) (wO wI eO eI : ℕ → ℝ) (tol : ℝ) (s z : ℂ)
    (st : PartState ℂ ℝ) (p : Contribution ℂ) :
    stateVal s z (classify zero wO wI eO eI tol st p)
      = stateVal s z st
        + pairVal zero tol s z (wO p.1) (wI p.2.1) (eO p.1) (eI p.2.1) p.2.2.1 p.2.2.2 := by
  unfold classify pairVal stateVal
  dsimp only
  split_ifs
  · rw [add_mul, add_assoc]
  · rw [List.map_append, List.sum_append, List.map_cons, List.map_nil, List.sum_cons, List.sum_nil,
      add_zero]
    unfold suscTermValue
    ring
  · rw [add_zero]

theorem foldl_classify (zero : ℝ → Bool) (wO wI eO eI : ℕ → ℝ) (tol : ℝ) (s z : ℂ) :
    ∀ (l : List (Contribution ℂ)) (st : PartState ℂ ℝ),
      stateVal s z (l.foldl (classify zero wO wI eO eI tol) st)
        = stateVal s z st
          + (l.map fun p =>
              pairVal zero tol s z (wO p.1) (wI p.2.1) (eO p.1) (eI p.2.1) p.2.2.1 p.2.2.2).sum := by
  intro l
  induction l with
  | nil => intro st; simp
  | cons p l ih =>
    intro st
    rw [List.foldl_cons, ih, stateVal_classify, List.map_cons, List.sum_cons, add_assoc]

section Part
variable {N M : ℕ}

noncomputable def suscBlockPart (zero : ℝ → Bool) (tol : ℝ) (s z : ℂ) (wO EO : Fin N → ℝ)
    (wI EI : Fin M → ℝ) (A : Matrix (Fin N) (Fin M) ℂ) (B : Matrix (Fin M) (Fin N) ℂ) : ℂ :=
  ∑ i : Fin N, ∑ j : Fin M, pairVal zero tol s z (wO i) (wI j) (EO i) (EI j) (A i j) (B j i)

/-- `SusceptibilityPart::compute` on a freshly constructed part: the `0` handed to `computePart` is the
`ZeroPoleWeight` the constructor sets (`compute()` does not reset it). -/
theorem susc_part_loop (zero : ℝ → Bool) (tol : ℝ) (s z : ℂ) (wO EO : Fin N → ℝ) (wI EI : Fin M → ℝ)
    {A : Matrix (Fin N) (Fin M) ℂ} {B : Matrix (Fin M) (Fin N) ℂ} {As Bs : SpMat ℂ}
    (hA : RepresentsRows As A) (hB : RepresentsCols Bs B) :
    ∃ st, computePart true true zero (natExt wO) (natExt wI) (natExt EO) (natExt EI) tol 0 As Bs
        = .ok st ∧
      stateVal s z st = suscBlockPart zero tol s z wO EO wI EI A B := by
  obtain ⟨l, h1, h2⟩ := gfpart_sum_eq_matrix_sum
    (fun i k a b => pairVal zero tol s z (natExt wO i) (natExt wI k) (natExt EO i) (natExt EI k) a b)
    (fun _ _ _ => pairVal_eq_zero (Or.inl rfl) ..) (fun _ _ _ => pairVal_eq_zero (Or.inr rfl) ..) hA hB
  refine ⟨l.foldl (classify zero (natExt wO) (natExt wI) (natExt EO) (natExt EI) tol) ([], 0), ?_, ?_⟩
  · unfold computePart contributions
    rw [h1]
  · rw [foldl_classify, h2]
    unfold stateVal suscBlockPart
    simp only [natExt_val, List.map_nil, List.sum_nil, zero_mul, add_zero, zero_add]

/-- The flags extracted for the two advancing loops of `SusceptibilityPart::compute` are the guarded
ones: the loop theorems, all stated at the flags `true true`, are about the loop as the source has it. -/
theorem computePartSource_eq (wO wI eO eI : ℕ → ℝ) (As Bs : SpMat ℂ) :
    computePartSource wO wI eO eI As Bs
      = computePart true true (sourceZeroTest (Gen.Susc.tolResonance : ℝ)) wO wI eO eI
          (Gen.Susc.tolMatrixElement : ℝ) (0 : ℂ) As Bs := by
  have h1 : sourceGuardB = true := by decide
  have h2 : sourceGuardA = true := by decide
  unfold computePartSource
  rw [h1, h2]

end Part

section Whole
variable {B : ℕ} {sz : Fin B → ℕ}

noncomputable def pairSum (d : EigenData (Basis sz)) (A Bm : Matrix (Basis sz) (Basis sz) ℂ)
    (zero : ℝ → Bool) (tol : ℝ) (s z : ℂ) : ℂ :=
  ∑ n, ∑ m, pairVal zero tol s z (d.w n) (d.w m) (d.E n) (d.E m) (A n m) (Bm m n)

/-- THE WHOLE LOOP STRUCTURE (`Susceptibility::prepare` + `Susceptibility::compute`), ANY ZERO-POLE
TEST AND ANY TOLERANCE, in the setting of `C01.loops_compute_lehmann_sum`; nothing truncated. -/
theorem susc_loops_compute_pair_sum (d : EigenData (Basis sz))
    (A Bm : Matrix (Basis sz) (Basis sz) ℂ) (a b : List (ℕ × ℕ))
    (ha : SortedByLeft a) (hb : SortedByRight b) (haA : CoversBlocks a A)
    (hbB : CoversBlocks b Bm) (hrange : ∀ p ∈ a, p.1 < B ∧ p.2 < B)
    (Ablk Bblk : ℕ → ℕ → SpMat ℂ)
    (hAblk : ∀ L R : Fin B, RepresentsRows (Ablk L.1 R.1) (block A L R))
    (hBblk : ∀ L R : Fin B, RepresentsCols (Bblk R.1 L.1) (block Bm R L))
    (zero : ℝ → Bool) (tol : ℝ) (s z : ℂ) :
    ∃ sts, susceptibilityParts true true (fun _ => true) zero a b (blockTable d.w) (blockTable d.E)
        tol Ablk Bblk = .ok sts ∧
      (sts.map (stateVal s z)).sum = pairSum d A Bm zero tol s z := by
  obtain ⟨parts, sts, hp, h1, h2⟩ := prepared_parts_sum (γ := PartState ℂ ℝ) computeParts
    (fun _ => rfl) (fun _ _ _ _ _ _ h1 h2 => by rw [computeParts, h1, h2])
    (fun n m => pairVal zero tol s z (d.w n) (d.w m) (d.E n) (d.E m) (A n m) (Bm m n)) A Bm
    (fun _ _ h => pairVal_eq_zero h ..) a b ha hb haA hbB hrange
    (fun l r => computePart true true zero (blockTable d.w l) (blockTable d.w r) (blockTable d.E l)
      (blockTable d.E r) tol (0 : ℂ) (Ablk l r) (Bblk r l)) (stateVal s z)
    (fun L R => by
      simp only [blockTable_fin]
      exact susc_part_loop zero tol s z _ _ _ _ (hAblk L R) (hBblk L R))
  refine ⟨sts, ?_, h2⟩
  unfold susceptibilityParts
  rw [show prepare (fun _ => true) a b = .ok parts from hp]
  exact h1

/-- the factor of the zero-pole weight at the bosonic Matsubara frequency `iΩ_k`: `β` at `k = 0`, else
`0` (idealisation of `abs(z) < 1e-15`, as in `Bridge.susc_sum`) -/
noncomputable def staticFactor (β : ℝ) (k : ℤ) : ℂ := if k = 0 then (β : ℂ) else 0

noncomputable def exactZeroTest : ℝ → Bool := fun P => decide (P = 0)

theorem exactZeroTest_iff (d : EigenData (Basis sz)) (n m : Basis sz) :
    exactZeroTest (Gen.Susc.pole (d.E m) (d.E n)) = true ↔ d.E m = d.E n := by
  unfold exactZeroTest
  rw [decide_eq_true_iff, Bridge.susc_pole, sub_eq_zero]

theorem sourceZeroTest_iff (d : EigenData (Basis sz)) (rtol : ℝ) (hr : 0 < rtol)
    (hclean : ∀ n m, d.E m = d.E n ∨ rtol ≤ |d.E m - d.E n|) (n m : Basis sz) :
    sourceZeroTest rtol (Gen.Susc.pole (d.E m) (d.E n)) = true ↔ d.E m = d.E n := by
  unfold sourceZeroTest
  rw [Bridge.susc_isZeroPole, Bridge.susc_pole]
  constructor
  · intro h
    rcases hclean n m with h' | h'
    · exact h'
    · exact absurd h (not_lt.mpr h')
  · intro h
    rw [h, sub_self, abs_zero]
    exact hr

theorem pairSum_exact (d : EigenData (Basis sz)) (A Bm : Matrix (Basis sz) (Basis sz) ℂ)
    (zero : ℝ → Bool)
    (hzero : ∀ n m, zero (Gen.Susc.pole (d.E m) (d.E n)) = true ↔ d.E m = d.E n)
    (tol : ℝ) (htol : tol < 0) (k : ℤ) :
    pairSum d A Bm zero tol (staticFactor d.β k) (Complex.I * (d.Ω k : ℂ)) = d.suscDef A Bm k := by
  rw [← Bridge.susc_sum d A Bm k]
  unfold pairSum
  refine Finset.sum_congr rfl fun n _ => Finset.sum_congr rfl fun m _ => ?_
  unfold pairVal staticFactor
  have hk : ∀ r : ℂ, Gen.Susc.residueKept r tol = true := fun r => by
    rw [Bridge.susc_residueKept]; exact lt_of_lt_of_le htol (norm_nonneg r)
  by_cases hE : d.E m = d.E n
  · rw [if_pos ((hzero n m).mpr hE), if_pos hE, mul_ite, mul_zero]
  · rw [if_neg (fun h => hE ((hzero n m).mp h)), if_neg hE, if_pos (hk _)]

theorem pairSum_tolerances (d : EigenData (Basis sz)) (A Bm : Matrix (Basis sz) (Basis sz) ℂ)
    (rtol mtol : ℝ) (k : ℤ) :
    pairSum d A Bm (sourceZeroTest rtol) mtol (staticFactor d.β k) (Complex.I * (d.Ω k : ℂ))
      = suscWithTolerances d A Bm k rtol mtol := by
  unfold pairSum suscWithTolerances
  refine Finset.sum_congr rfl fun n _ => Finset.sum_congr rfl fun m _ => ?_
  unfold pairVal suscPairWithTolerances staticFactor sourceZeroTest
  rw [mul_ite, mul_zero]

theorem sum_stateVal_matsubara (β : ℝ) (k : ℤ) (z : ℂ) (sts : List (PartState ℂ ℝ)) :
    (sts.map fun st => (st.1.map (suscTermValue z)).sum + (if k = 0 then st.2 * (β : ℂ) else 0)).sum
      = (sts.map (stateVal (staticFactor β k) z)).sum := by
  refine congrArg List.sum (List.map_congr_left fun st _ => ?_)
  unfold stateVal staticFactor
  rw [mul_ite, mul_zero]

/-- THE LOOPS OF THE SUSCEPTIBILITY CODE COMPUTE THE DEFINITION `∫₀^β ⟨A(τ)B(0)⟩ e^{iΩ_k τ} dτ`
(equivalently `d.lehmannSusc A B k`: `lehmann_susc`).  Idealisations: the zero-pole test is any test
that is exact on the spectrum (instances: `exactZeroTest_iff`, `sourceZeroTest_iff`), the residue filter
is switched off (`tol < 0`), nothing is truncated, and the terms are summed as they are handed to
`add_term` (the term container is not part of the loop model). -/
theorem susc_loops_compute_definition (d : EigenData (Basis sz))
    (A Bm : Matrix (Basis sz) (Basis sz) ℂ) (a b : List (ℕ × ℕ))
    (ha : SortedByLeft a) (hb : SortedByRight b) (haA : CoversBlocks a A)
    (hbB : CoversBlocks b Bm) (hrange : ∀ p ∈ a, p.1 < B ∧ p.2 < B)
    (Ablk Bblk : ℕ → ℕ → SpMat ℂ)
    (hAblk : ∀ L R : Fin B, RepresentsRows (Ablk L.1 R.1) (block A L R))
    (hBblk : ∀ L R : Fin B, RepresentsCols (Bblk R.1 L.1) (block Bm R L))
    (zero : ℝ → Bool)
    (hzero : ∀ n m, zero (Gen.Susc.pole (d.E m) (d.E n)) = true ↔ d.E m = d.E n)
    (tol : ℝ) (htol : tol < 0) (k : ℤ) :
    ∃ sts, susceptibilityParts true true (fun _ => true) zero a b (blockTable d.w) (blockTable d.E)
        tol Ablk Bblk = .ok sts ∧
      (sts.map fun st =>
          (st.1.map (suscTermValue (Complex.I * (d.Ω k : ℂ)))).sum
            + (if k = 0 then st.2 * (d.β : ℂ) else 0)).sum
        = d.suscDef A Bm k := by
  obtain ⟨sts, h1, h2⟩ := susc_loops_compute_pair_sum d A Bm a b ha hb haA hbB hrange Ablk Bblk
    hAblk hBblk zero tol (staticFactor d.β k) (Complex.I * (d.Ω k : ℂ))
  exact ⟨sts, h1, by rw [sum_stateVal_matsubara, h2, pairSum_exact d A Bm zero hzero tol htol k]⟩

/-- With the EXTRACTED tests `abs(Pole) < rtol`, `abs(Residue) > mtol` and arbitrary tolerances the
loops compute exactly `suscWithTolerances d A B k rtol mtol` of `Spec/SuscTol.lean` -- the quantity
whose distance to the definition is accounted for in `suscWithTolerances_eq` (finding F14). -/
theorem susc_loops_compute_value_with_tolerances (d : EigenData (Basis sz))
    (A Bm : Matrix (Basis sz) (Basis sz) ℂ) (a b : List (ℕ × ℕ))
    (ha : SortedByLeft a) (hb : SortedByRight b) (haA : CoversBlocks a A)
    (hbB : CoversBlocks b Bm) (hrange : ∀ p ∈ a, p.1 < B ∧ p.2 < B)
    (Ablk Bblk : ℕ → ℕ → SpMat ℂ)
    (hAblk : ∀ L R : Fin B, RepresentsRows (Ablk L.1 R.1) (block A L R))
    (hBblk : ∀ L R : Fin B, RepresentsCols (Bblk R.1 L.1) (block Bm R L))
    (rtol mtol : ℝ) (k : ℤ) :
    ∃ sts, susceptibilityParts true true (fun _ => true) (sourceZeroTest rtol) a b (blockTable d.w)
        (blockTable d.E) mtol Ablk Bblk = .ok sts ∧
      (sts.map fun st =>
          (st.1.map (suscTermValue (Complex.I * (d.Ω k : ℂ)))).sum
            + (if k = 0 then st.2 * (d.β : ℂ) else 0)).sum
        = suscWithTolerances d A Bm k rtol mtol := by
  obtain ⟨sts, h1, h2⟩ := susc_loops_compute_pair_sum d A Bm a b ha hb haA hbB hrange Ablk Bblk
    hAblk hBblk (sourceZeroTest rtol) mtol (staticFactor d.β k) (Complex.I * (d.Ω k : ℂ))
  exact ⟨sts, h1, by rw [sum_stateVal_matsubara, h2, pairSum_tolerances]⟩

/-- ... and with the extracted CONSTANTS (`10⁻⁸`, `10⁻⁸`) the definition, whenever no pair of levels
is nearly (not exactly) degenerate and no non-zero residue is below the filter -/
theorem susc_loops_source_tolerances_clean (d : EigenData (Basis sz))
    (A Bm : Matrix (Basis sz) (Basis sz) ℂ) (a b : List (ℕ × ℕ))
    (ha : SortedByLeft a) (hb : SortedByRight b) (haA : CoversBlocks a A)
    (hbB : CoversBlocks b Bm) (hrange : ∀ p ∈ a, p.1 < B ∧ p.2 < B)
    (Ablk Bblk : ℕ → ℕ → SpMat ℂ)
    (hAblk : ∀ L R : Fin B, RepresentsRows (Ablk L.1 R.1) (block A L R))
    (hBblk : ∀ L R : Fin B, RepresentsCols (Bblk R.1 L.1) (block Bm R L)) (k : ℤ)
    (hclean : ∀ n m, d.E m = d.E n ∨ ((Gen.Susc.tolResonance : ℝ) ≤ |d.E m - d.E n| ∧
      ((Gen.Susc.tolMatrixElement : ℝ) < ‖A n m * Bm m n * ((d.w n : ℂ) - (d.w m : ℂ))‖ ∨
        A n m * Bm m n * ((d.w n : ℂ) - (d.w m : ℂ)) = 0))) :
    ∃ sts, susceptibilityParts true true (fun _ => true)
        (sourceZeroTest (Gen.Susc.tolResonance : ℝ)) a b (blockTable d.w)
        (blockTable d.E) (Gen.Susc.tolMatrixElement : ℝ) Ablk Bblk = .ok sts ∧
      (sts.map fun st =>
          (st.1.map (suscTermValue (Complex.I * (d.Ω k : ℂ)))).sum
            + (if k = 0 then st.2 * (d.β : ℂ) else 0)).sum
        = d.suscDef A Bm k := by
  obtain ⟨sts, h1, h2⟩ := susc_loops_compute_value_with_tolerances d A Bm a b ha hb haA hbB hrange
    Ablk Bblk hAblk hBblk Gen.Susc.tolResonance Gen.Susc.tolMatrixElement k
  exact ⟨sts, h1, by
    rw [h2]
    exact suscWithTolerances_exact_of_clean_spectrum d A Bm k _ _ Bridge.susc_tolResonance_pos hclean⟩

theorem foldl_add_eq_sum {α : Type} (f : α → ℂ) (l : List α) :
    l.foldl (fun acc t => acc + f t) 0 = (l.map f).sum := by
  rw [List.sum_eq_foldl, List.foldl_map]

/-- the library's test `abs(z) < 1e-15` at `z = iΩ_k` is `k = 0`, provided `β ≤ 10¹⁵` (the first
non-zero bosonic frequency is `2π/β`) -/
theorem zeroPoleValue_matsubara {ι : Type} (d : EigenData ι) (hβ : d.β ≤ 10 ^ 15) (zpw : ℂ) (k : ℤ) :
    Gen.Susc.zeroPoleValue zpw d.β (Complex.I * (d.Ω k : ℂ)) = zpw * staticFactor d.β k := by
  rw [Bridge.susc_zeroPoleValue]
  unfold staticFactor
  by_cases hk : k = 0
  · subst hk
    have h0 : d.Ω 0 = 0 := by unfold EigenData.Ω; simp
    rw [h0, if_pos rfl, if_pos]
    rw [Complex.ofReal_zero, mul_zero, norm_zero]
    norm_num
  · rw [if_neg hk, mul_zero, if_neg]
    rw [not_lt, norm_mul, Complex.norm_I, one_mul, Complex.norm_real, Real.norm_eq_abs]
    unfold EigenData.Ω
    have hk1 : (1 : ℝ) ≤ |(k : ℝ)| := by
      rw [← Int.cast_abs, ← Int.cast_one, Int.cast_le]
      exact Int.one_le_abs hk
    rw [abs_div, abs_mul, abs_mul, abs_of_pos d.hβ, abs_of_pos Real.pi_pos, abs_two]
    rw [le_div_iff₀ d.hβ]
    have h1 : (1e-15 : ℝ) * d.β ≤ 1 := by
      have : (1e-15 : ℝ) = 1 / 10 ^ 15 := by norm_num
      rw [this, div_mul_eq_mul_div, one_mul]
      exact div_le_one_of_le₀ hβ (by positivity)
    have h2 : (1 : ℝ) ≤ 2 * Real.pi :=
      one_le_mul_of_one_le_of_one_le one_le_two (one_le_two.trans Real.two_le_pi)
    calc (1e-15 : ℝ) * d.β ≤ 1 * 1 := by rw [one_mul]; exact h1
      _ ≤ 2 * Real.pi * |(k : ℝ)| := mul_le_mul h2 hk1 zero_le_one (by positivity)
      _ = 2 * |(k : ℝ)| * Real.pi := mul_right_comm _ _ _

theorem partValue_eq {ι : Type} (d : EigenData ι) (hβ : d.β ≤ 10 ^ 15) (k : ℤ) (st : PartState ℂ ℝ) :
    Pomerol.Model.SuscPart.partValue d.β (Complex.I * (d.Ω k : ℂ)) st
      = stateVal (staticFactor d.β k) (Complex.I * (d.Ω k : ℂ)) st := by
  unfold Pomerol.Model.SuscPart.partValue termsValue stateVal
  rw [foldl_add_eq_sum, zeroPoleValue_matsubara d hβ]
  rfl

theorem susceptibilityValue_eq {ι : Type} (d : EigenData ι) (hβ : d.β ≤ 10 ^ 15) (k : ℤ)
    (sts : List (PartState ℂ ℝ)) :
    susceptibilityValue d.β (Complex.I * (d.Ω k : ℂ)) sts
      = (sts.map (stateVal (staticFactor d.β k) (Complex.I * (d.Ω k : ℂ)))).sum := by
  unfold susceptibilityValue
  rw [foldl_add_eq_sum]
  exact congrArg List.sum (List.map_congr_left fun st _ => partValue_eq d hβ k st)

end Whole

end Pomerol.Spec.SuscRefine
