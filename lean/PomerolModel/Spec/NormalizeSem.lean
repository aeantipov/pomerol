/-
  Semantic soundness of the symbolic operator algebra model (`Model/Operator.lean`) with respect
  to every representation of the CAR (`Spec/CAR.lean`), for the exact idealisation of the
  tolerance tests: the normal ordering, the arithmetic, and the equality test `operator==` (with
  the length test) with the commutation test built on it.

  NOTE on the extra hypotheses `hc`, `hcd`.  The CAR with `i = j` only give
  `c i * c i + c i * c i = 0`, which does not imply `c i * c i = 0` when `2` is a zero divisor
  (e.g. the Weyl algebra over `ZMod 2` is a `CARRep` with `c i * c i ≠ 0`), while the model
  discards every monomial with two equal neighbours.  Hence the theorems that involve the normal
  ordering carry the hypotheses `hc : ∀ i, r.c i * r.c i = 0`, `hcd : ∀ i, r.cd i * r.cd i = 0`;
  `CARRep.c_sq_of_two_torsion_free` / `CARRep.cd_sq_of_two_torsion_free` discharge them whenever
  `a + a = 0 → a = 0` in `A`.
-/
import PomerolModel.Spec.CAR
import Mathlib.Tactic.Abel
import Mathlib.Algebra.BigOperators.Ring.List

namespace Pomerol.Spec
open Pomerol.Model

theorem foldlM_sem {α β M : Type} [AddCommMonoid M] (φ : β → M) (f : β → α → Option β) (g : α → M)
    (hf : ∀ acc x t, f acc x = some t → φ t = φ acc + g x) :
    ∀ (l : List α) (init t : β), l.foldlM f init = some t → φ t = φ init + (l.map g).sum := by
  intro l
  induction l with
  | nil =>
    intro init t h
    simp at h
    simp [h]
  | cons x l ih =>
    intro init t h
    rw [List.foldlM_cons] at h
    obtain ⟨b, hb, ht⟩ := Option.bind_eq_some_iff.mp h
    rw [ih b t ht, hf init x b hb, List.map_cons, List.sum_cons, add_assoc]

theorem foldl_sem {α β M : Type} [AddCommMonoid M] (φ : β → M) (f : β → α → β) (g : α → M)
    (hf : ∀ acc x, φ (f acc x) = φ acc + g x) :
    ∀ (l : List α) (init : β), φ (l.foldl f init) = φ init + (l.map g).sum := by
  intro l
  induction l with
  | nil => intro init; simp
  | cons x l ih =>
    intro init
    rw [List.foldl_cons, ih, hf, List.map_cons, List.sum_cons, add_assoc]

section
variable {K A : Type} [CommRing K] [Ring A] [Algebra K A]

@[simp] theorem poly_nil (r : CARRep K A) : r.poly ([] : Poly K) = 0 := by
  simp [CARRep.poly]

@[simp] theorem poly_cons (r : CARRep K A) (m : Mono) (c : K) (p : Poly K) :
    r.poly ((m, c) :: p) = c • r.mono m + r.poly p := by
  simp [CARRep.poly]

@[simp] theorem mono_nil (r : CARRep K A) : r.mono [] = 1 := by
  simp [CARRep.mono]

@[simp] theorem mono_cons (r : CARRep K A) (a : Op) (m : Mono) :
    r.mono (a :: m) = r.op a * r.mono m := by
  simp [CARRep.mono]

theorem mono_append (r : CARRep K A) (m m2 : Mono) :
    r.mono (m ++ m2) = r.mono m * r.mono m2 := by
  simp [CARRep.mono, List.map_append, List.prod_append]

theorem CARRep.c_sq_of_two_torsion_free (r : CARRep K A) (h2 : ∀ a : A, a + a = 0 → a = 0)
    (i : Nat) : r.c i * r.c i = 0 := h2 _ (r.cc i i)

theorem CARRep.cd_sq_of_two_torsion_free (r : CARRep K A) (h2 : ∀ a : A, a + a = 0 → a = 0)
    (i : Nat) : r.cd i * r.cd i = 0 := h2 _ (r.cdcd i i)

theorem op_sq (r : CARRep K A) (hc : ∀ i, r.c i * r.c i = 0) (hcd : ∀ i, r.cd i * r.cd i = 0)
    (a : Op) : r.op a * r.op a = 0 := by
  unfold CARRep.op
  split
  · exact hc _
  · exact hcd _

theorem op_anticomm (r : CARRep K A) (a b : Op) (hlt : b.lt a = true) :
    r.op a * r.op b + r.op b * r.op a = if a = b.flip then 1 else 0 := by
  rcases a with ⟨aa, ai⟩
  rcases b with ⟨ba, bi⟩
  cases aa <;> cases ba <;> simp [Op.lt, Op.flip, CARRep.op] at hlt ⊢
  · exact r.cdcd ai bi
  · exact r.ccd ai bi
  · exact r.cc ai bi

theorem op_swap (r : CARRep K A) (a b : Op) (hlt : b.lt a = true) (x : A) :
    r.op a * (r.op b * x) = (if a = b.flip then x else 0) - r.op b * (r.op a * x) := by
  rw [← mul_assoc, ← mul_assoc, eq_sub_iff_add_eq, ← add_mul, op_anticomm r a b hlt]
  split <;> simp

def passVal (r : CARRep K A) : Pass K → Option A
  | .oof => none
  | .zero t => some (r.poly t)
  | .done m c _ t => some (r.poly t + c • r.mono m)

theorem poly_eq_sum (r : CARRep K A) (p : Poly K) :
    r.poly p = (p.map fun mc => mc.2 • r.mono mc.1).sum := rfl

theorem poly_same_key (r : CARRep K A) (m0 : Mono) (p : Poly K) (hk : ∀ mc ∈ p, mc.1 = m0) :
    r.poly p = (p.map (·.2)).sum • r.mono m0 := by
  induction p with
  | nil => simp
  | cons mc p ih =>
    rw [poly_cons, hk mc List.mem_cons_self, ih fun mc hmc => hk mc (List.mem_cons_of_mem _ hmc),
      List.map_cons, List.sum_cons, add_smul]

theorem poly_opCdag (r : CARRep K A) (i : Nat) : r.poly (opCdag (K := K) i) = r.cd i := by
  simp [opCdag, CARRep.op]

theorem poly_opC (r : CARRep K A) (i : Nat) : r.poly (opC (K := K) i) = r.c i := by
  simp [opC, CARRep.op]

theorem poly_apply {V : Type} [AddCommGroup V] [Module K V] (r : CARRep K (Module.End K V))
    (p : Poly K) (v : V) : r.poly p v = (p.map fun mc => mc.2 • r.mono mc.1 v).sum := by
  induction p with
  | nil => simp
  | cons mc p ih =>
    rw [poly_cons, LinearMap.add_apply, LinearMap.smul_apply, ih, List.map_cons, List.sum_cons]

end

section
variable {K A : Type} [CommRing K] [DecidableEq K] [Ring A] [Algebra K A]

-- the exact idealisation of the tolerance tests is used throughout this section
open scoped Pomerol.Spec.Exact

theorem insertAdd_sem (r : CARRep K A) (m : Mono) (c : K) (p : Poly K) :
    r.poly (Poly.insertAdd m c p) = r.poly p + c • r.mono m := by
  induction p with
  | nil => simp [Poly.insertAdd]
  | cons x p ih =>
    obtain ⟨m', c'⟩ := x
    unfold Poly.insertAdd
    by_cases hm : m = m'
    · subst hm
      by_cases hs : c' + c = 0
      · simp [CoefTest.negl100, hs]
        rw [add_comm _ (r.poly p), add_assoc, ← add_smul, hs, zero_smul, add_zero]
      · simp [CoefTest.negl100, hs, add_smul]
        abel
    · by_cases hlt : monoLt m m' = true
      · simp [hm, hlt]; abel
      · simp [hm, hlt, ih]; abel

theorem insertSub_eq (m : Mono) (c : K) (p : Poly K) :
    Poly.insertSub m c p = Poly.insertAdd m (-c) p := by
  induction p with
  | nil => rfl
  | cons x p ih => simp only [Poly.insertSub, Poly.insertAdd, sub_eq_add_neg, ih]

theorem insertSub_sem (r : CARRep K A) (m : Mono) (c : K) (p : Poly K) :
    r.poly (Poly.insertSub m c p) = r.poly p - c • r.mono m := by
  rw [insertSub_eq, insertAdd_sem, neg_smul, sub_eq_add_neg]

omit [DecidableEq K] in
/-- Soundness of one bubble pass, given that the recursive call used for contractions is sound:
whatever the sweep returns denotes the target plus the working monomial it started from. -/
theorem passGo_sem (r : CARRep K A)
    (hc : ∀ i, r.c i * r.c i = 0) (hcd : ∀ i, r.cd i * r.cd i = 0)
    (rec : Mono → K → Poly K → Option (Poly K))
    (hrec : ∀ m c tg t, rec m c tg = some t → r.poly t = r.poly tg + c • r.mono m)
    (pre : List Op) (prev : Op) (rest : List Op) (coeff : K) (sw : Bool) (tgt : Poly K) :
    ∀ a ∈ passVal r (passGo rec pre prev rest coeff sw tgt),
      a = r.poly tgt + coeff • r.mono (pre.reverse ++ prev :: rest) := by
  fun_induction passGo rec pre prev rest coeff sw tgt with
  | case1 pre prev coeff sw tgt => simp [passVal]
  | case2 pre cur rest coeff sw tgt =>
    simp [passVal, mono_append, ← mul_assoc (r.op cur), op_sq r hc hcd]
  | case3 => simp [passVal]
  | case4 pre prev cur rest coeff sw tgt h1 h2 tgt' t ht ih =>
    intro a ha
    rw [ih a ha]
    simp only [List.reverse_cons, List.append_assoc, List.cons_append, List.nil_append,
      mono_append, mono_cons, op_swap r prev cur h2]
    dsimp only [tgt'] at ht
    split at ht
    · next h3 =>
      rw [hrec _ _ _ _ ht, mono_append, if_pos h3, mul_sub, smul_sub, neg_smul]
      abel
    · next h3 =>
      cases ht
      rw [if_neg h3, zero_sub, mul_neg, smul_neg, neg_smul]
  | case5 pre prev cur rest coeff sw tgt h1 h2 ih =>
    intro a ha
    rw [ih a ha]
    simp

theorem normalizeAux_sem (r : CARRep K A)
    (hc : ∀ i, r.c i * r.c i = 0) (hcd : ∀ i, r.cd i * r.cd i = 0) :
    ∀ (fuel : Nat) (m : Mono) (coeff : K) (tgt t : Poly K),
      normalizeAux fuel m coeff tgt = some t → r.poly t = r.poly tgt + coeff • r.mono m := by
  intro fuel
  induction fuel with
  | zero => intro m coeff tgt t h; cases h
  | succ fuel ih =>
    intro m coeff tgt t h
    match m with
    | [] => cases h; exact insertAdd_sem r _ _ _
    | [a] => cases h; exact insertAdd_sem r _ _ _
    | a :: b :: rest =>
      have hp : ∀ x ∈ passVal r _, x = r.poly tgt + coeff • r.mono (a :: b :: rest) :=
        passGo_sem r hc hcd (normalizeAux fuel) ih [] a (b :: rest) coeff false tgt
      simp only [normalizeAux] at h
      split at h
      · cases h
      · next t0 hp0 => cases h; exact hp _ (by rw [hp0]; rfl)
      · next m' c' sw t0 hp0 =>
        rw [← hp _ (by rw [hp0]; rfl)]
        split at h
        · exact ih _ _ _ _ h
        · cases h; exact insertAdd_sem r _ _ _

theorem normalizeInsert_sem (r : CARRep K A)
    (hc : ∀ i, r.c i * r.c i = 0) (hcd : ∀ i, r.cd i * r.cd i = 0)
    (m : Mono) (coeff : K) (tgt t : Poly K)
    (h : normalizeInsert m coeff tgt = some t) : r.poly t = r.poly tgt + coeff • r.mono m :=
  normalizeAux_sem r hc hcd _ _ _ _ _ h

theorem mul_sem (r : CARRep K A)
    (hc : ∀ i, r.c i * r.c i = 0) (hcd : ∀ i, r.cd i * r.cd i = 0)
    (p q t : Poly K) (h : Poly.mul p q = some t) :
    r.poly t = r.poly p * r.poly q := by
  unfold Poly.mul at h
  have inner : ∀ (mc : Mono × K) (acc t : Poly K),
      q.foldlM (fun acc2 (x : Mono × K) => normalizeInsert (mc.1 ++ x.1) (mc.2 * x.2) acc2) acc
        = some t → r.poly t = r.poly acc + (mc.2 • r.mono mc.1) * r.poly q := by
    intro mc acc t ht
    have := foldlM_sem (r.poly) _ (fun x : Mono × K => (mc.2 • r.mono mc.1) * (x.2 • r.mono x.1))
      (fun acc x t hx => by
        rw [normalizeInsert_sem r hc hcd _ _ _ _ hx, mono_append, smul_mul_smul_comm]) q acc t ht
    rw [this, List.sum_map_mul_left, ← poly_eq_sum r q]
  have outer := foldlM_sem (r.poly) _ (fun mc : Mono × K => (mc.2 • r.mono mc.1) * r.poly q)
    (fun acc mc t hx => inner mc acc t hx) p [] t h
  rw [outer, List.sum_map_mul_right, ← poly_eq_sum r p, poly_nil, zero_add]

theorem add_sem (r : CARRep K A) (p q : Poly K) : r.poly (Poly.add p q) = r.poly p + r.poly q := by
  unfold Poly.add
  rw [foldl_sem (r.poly) _ (fun mc : Mono × K => mc.2 • r.mono mc.1)
    (fun acc mc => insertAdd_sem r _ _ _) q p, poly_eq_sum r q]

theorem smul_sem (r : CARRep K A) (a : K) (p : Poly K) : r.poly (Poly.smul a p) = a • r.poly p := by
  unfold Poly.smul
  by_cases ha : a = 0
  · simp [CoefTest.negl100, ha]
  · simp only [CoefTest.negl100, ha, decide_false, Bool.false_eq_true, if_false]
    induction p with
    | nil => simp
    | cons x p ih =>
      obtain ⟨m, c⟩ := x
      simp only [List.map_cons, poly_cons, ih, smul_add, smul_smul, mul_comm a c]

set_option linter.unusedSectionVars false in
theorem neg_sem (r : CARRep K A) (p : Poly K) : r.poly (Poly.neg p) = - r.poly p := by
  unfold Poly.neg
  induction p with
  | nil => simp
  | cons x p ih =>
    obtain ⟨m, c⟩ := x
    simp only [List.map_cons, poly_cons, ih, neg_add, neg_smul]

theorem sub_sem (r : CARRep K A) (p q : Poly K) : r.poly (Poly.sub p q) = r.poly p - r.poly q := by
  have h : Poly.sub p q = Poly.add p (Poly.neg q) := by
    unfold Poly.sub Poly.add Poly.neg
    rw [List.foldl_map]
    simp only [insertSub_eq]
  rw [h, add_sem, neg_sem, sub_eq_add_neg]

theorem addConst_sem (r : CARRep K A) (a : K) (p : Poly K) :
    r.poly (Poly.addConst a p) = r.poly p + a • (1 : A) := by
  unfold Poly.addConst
  rw [insertAdd_sem, mono_nil]

theorem commutator_sem (r : CARRep K A)
    (hc : ∀ i, r.c i * r.c i = 0) (hcd : ∀ i, r.cd i * r.cd i = 0)
    (p q t : Poly K) (h : Poly.commutator p q = some t) :
    r.poly t = r.poly p * r.poly q - r.poly q * r.poly p := by
  unfold Poly.commutator at h
  simp only [Option.bind_eq_bind, Option.pure_def, Option.bind_eq_some_iff,
    Option.some.injEq] at h
  obtain ⟨pq, hpq, qp, hqp, rfl⟩ := h
  rw [sub_sem, mul_sem r hc hcd _ _ _ hpq, mul_sem r hc hcd _ _ _ hqp]

theorem antiCommutator_sem (r : CARRep K A)
    (hc : ∀ i, r.c i * r.c i = 0) (hcd : ∀ i, r.cd i * r.cd i = 0)
    (p q t : Poly K) (h : Poly.antiCommutator p q = some t) :
    r.poly t = r.poly p * r.poly q + r.poly q * r.poly p := by
  unfold Poly.antiCommutator at h
  simp only [Option.bind_eq_bind, Option.pure_def, Option.bind_eq_some_iff,
    Option.some.injEq] at h
  obtain ⟨pq, hpq, qp, hqp, rfl⟩ := h
  rw [add_sem, mul_sem r hc hcd _ _ _ hpq, mul_sem r hc hcd _ _ _ hqp]

theorem mul_assoc_sem (r : CARRep K A)
    (hc : ∀ i, r.c i * r.c i = 0) (hcd : ∀ i, r.cd i * r.cd i = 0)
    (p q s pq qs l rr : Poly K)
    (h1 : Poly.mul p q = some pq) (h2 : Poly.mul pq s = some l)
    (h3 : Poly.mul q s = some qs) (h4 : Poly.mul p qs = some rr) : r.poly l = r.poly rr := by
  rw [mul_sem r hc hcd _ _ _ h2, mul_sem r hc hcd _ _ _ h1, mul_sem r hc hcd _ _ _ h4,
    mul_sem r hc hcd _ _ _ h3, mul_assoc]

end

section
open scoped Pomerol.Spec.Exact

theorem monoPrefixEq_same_length (a b : Mono) (h : a.length = b.length) :
    monoPrefixEq a b = some (decide (a = b)) := by
  induction a generalizing b with
  | nil =>
    cases b with
    | nil => rfl
    | cons y b => simp at h
  | cons x a ih =>
    cases b with
    | nil => simp at h
    | cons y b =>
      simp only [List.length_cons, Nat.add_right_cancel_iff] at h
      by_cases hxy : x = y
      · subst hxy
        simp [monoPrefixEq, ih b h]
      · simp [monoPrefixEq, hxy]

section
variable {K : Type} [CommRing K] [DecidableEq K]

theorem termEq_true (l r : Mono × K) : termEq true l r = some (decide (l = r)) := by
  obtain ⟨m, c⟩ := l
  obtain ⟨m', c'⟩ := r
  unfold termEq
  by_cases hl : m.length = m'.length
  · simp only [Bool.true_and, hl, ne_eq, not_true_eq_false, decide_false, Bool.false_eq_true,
      if_false, monoPrefixEq_same_length m m' hl, CoefTest.negl100, Prod.mk.injEq]
    by_cases hm : m = m'
    · by_cases hc : c = c'
      · simp [hm, hc]
      · have : ¬ c' - c = 0 := fun h => hc (sub_eq_zero.mp h).symm
        simp [hm, hc, this]
    · simp [hm]
  · have : ¬ m = m' := fun h => hl (by rw [h])
    simp [hl, this]

theorem eqCoded_go_true (p q : Poly K) (h : p.length = q.length) :
    Poly.eqCoded.go true p q = some (decide (p = q)) := by
  induction p generalizing q with
  | nil =>
    cases q with
    | nil => rfl
    | cons y q => simp at h
  | cons x p ih =>
    cases q with
    | nil => simp at h
    | cons y q =>
      simp only [List.length_cons, Nat.add_right_cancel_iff] at h
      unfold Poly.eqCoded.go
      rw [termEq_true]
      by_cases hxy : x = y
      · subst hxy
        simp [ih q h]
      · simp [hxy]

theorem eqCoded_true_eq (p q : Poly K) : Poly.eqCoded true p q = some (decide (p = q)) := by
  unfold Poly.eqCoded
  by_cases h : p.length = q.length
  · simp only [h, ne_eq, not_true_eq_false, if_false]
    exact eqCoded_go_true p q h
  · have : ¬ p = q := fun e => h (by rw [e])
    simp [h, this]

theorem eqCoded_true_iff (p q : Poly K) : Poly.eqCoded true p q = some true ↔ p = q := by
  rw [eqCoded_true_eq]
  simp

theorem commutes_sem {A : Type} [Ring A] [Algebra K A] (r : CARRep K A)
    (hc : ∀ i, r.c i * r.c i = 0) (hcd : ∀ i, r.cd i * r.cd i = 0) (p q : Poly K)
    (h : Poly.commutes true p q = some true) : r.poly p * r.poly q = r.poly q * r.poly p := by
  unfold Poly.commutes at h
  simp only [Option.bind_eq_bind, Option.bind_eq_some_iff] at h
  obtain ⟨pq, hpq, qp, hqp, heq⟩ := h
  rw [eqCoded_true_iff] at heq
  rw [← mul_sem r hc hcd _ _ _ hpq, heq, mul_sem r hc hcd _ _ _ hqp]

end

end

end Pomerol.Spec
