/-
  Totality of the fuelled / partial operations of the operator model: none of them ever returns
  `none` (fuel exhausted / out-of-bounds read) and the symmetry analysis never returns an error.
  Core Lean only.
-/
import PomerolModel.Spec.NormalizeTotal
import PomerolModel.Model.Symm

namespace Pomerol.Spec
open Pomerol.Model

theorem foldlM_option_isSome {α β : Type} (f : β → α → Option β)
    (hf : ∀ acc x, (f acc x).isSome) : ∀ (l : List α) (init : β), (l.foldlM f init).isSome
  | [], init => by simp [List.foldlM_nil]
  | x :: l, init => by
    simp only [List.foldlM_cons]
    cases hx : f init x with
    | none => have := hf init x; rw [hx] at this; simp at this
    | some acc' => exact foldlM_option_isSome f hf l acc'

theorem foldlM_except_ok {ε α β : Type} (f : β → α → Except ε β)
    (hf : ∀ acc x, ∃ b, f acc x = .ok b) : ∀ (l : List α) (init : β), ∃ b, l.foldlM f init = .ok b
  | [], init => ⟨init, by simp [List.foldlM_nil, pure, Except.pure]⟩
  | x :: l, init => by
    obtain ⟨b, hb⟩ := hf init x
    obtain ⟨r, hr⟩ := foldlM_except_ok f hf l b
    refine ⟨r, ?_⟩
    simp only [List.foldlM_cons, hb, bind, Except.bind]
    exact hr

theorem except_bind_ok {ε α β : Type} {x : Except ε α} {g : α → Except ε β}
    (hx : ∃ a, x = .ok a) (hg : ∀ a, ∃ b, g a = .ok b) : ∃ b, (x >>= g) = .ok b := by
  obtain ⟨a, rfl⟩ := hx
  exact hg a

theorem ite_ok {ε β : Type} {c : Prop} [Decidable c] {x y : Except ε β}
    (hx : ∃ b, x = .ok b) (hy : ∃ b, y = .ok b) : ∃ b, (if c then x else y) = .ok b := by
  split
  · exact hx
  · exact hy

section
variable {K : Type} [Add K] [Sub K] [Mul K] [Neg K] [Zero K] [One K] [CoefTest K]

theorem mul_isSome (p q : Poly K) : (Poly.mul p q).isSome := by
  unfold Poly.mul
  refine foldlM_option_isSome _ ?_ p []
  rintro acc ⟨m, c⟩
  refine foldlM_option_isSome _ ?_ q acc
  rintro acc2 ⟨m2, c2⟩
  exact normalizeInsert_isSome _ _ _

theorem commutator_isSome (p q : Poly K) : (Poly.commutator p q).isSome := by
  obtain ⟨pq, h1⟩ := Option.isSome_iff_exists.mp (mul_isSome p q)
  obtain ⟨qp, h2⟩ := Option.isSome_iff_exists.mp (mul_isSome q p)
  simp [Poly.commutator, h1, h2]

theorem antiCommutator_isSome (p q : Poly K) : (Poly.antiCommutator p q).isSome := by
  obtain ⟨pq, h1⟩ := Option.isSome_iff_exists.mp (mul_isSome p q)
  obtain ⟨qp, h2⟩ := Option.isSome_iff_exists.mp (mul_isSome q p)
  simp [Poly.antiCommutator, h1, h2]

theorem monoPrefixEq_isSome_of_le : ∀ (l r : Mono), l.length ≤ r.length → (monoPrefixEq l r).isSome
  | [], _, _ => by simp [monoPrefixEq]
  | _ :: _, [], h => by simp at h
  | a :: as, b :: bs, h => by
    simp only [monoPrefixEq]
    split
    · exact monoPrefixEq_isSome_of_le as bs (by simpa using h)
    · rfl

omit [Add K] [Mul K] [Neg K] [Zero K] [One K] in
theorem termEq_isSome (l r : Mono × K) : (termEq true l r).isSome := by
  unfold termEq
  by_cases h : l.1.length = r.1.length
  · have hs := monoPrefixEq_isSome_of_le l.1 r.1 (Nat.le_of_eq h)
    obtain ⟨b, hb⟩ := Option.isSome_iff_exists.mp hs
    simp [h, hb]
  · simp [h]

omit [Add K] [Mul K] [Neg K] [Zero K] [One K] in
theorem eqCoded_go_isSome : ∀ (p q : Poly K), (Poly.eqCoded.go true p q).isSome
  | [], _ => by simp [Poly.eqCoded.go]
  | _ :: _, [] => by simp [Poly.eqCoded.go]
  | a :: as, b :: bs => by
    obtain ⟨r, hr⟩ := Option.isSome_iff_exists.mp (termEq_isSome a b)
    simp only [Poly.eqCoded.go, hr]
    cases r with
    | false => rfl
    | true => exact eqCoded_go_isSome as bs

omit [Add K] [Mul K] [Neg K] [Zero K] [One K] in
theorem eqCoded_isSome (p q : Poly K) : (Poly.eqCoded true p q).isSome := by
  unfold Poly.eqCoded
  split
  · rfl
  · exact eqCoded_go_isSome p q

theorem commutes_isSome (p q : Poly K) : (Poly.commutes true p q).isSome := by
  obtain ⟨pq, h1⟩ := Option.isSome_iff_exists.mp (mul_isSome p q)
  obtain ⟨qp, h2⟩ := Option.isSome_iff_exists.mp (mul_isSome q p)
  simp only [Poly.commutes, h1, h2, bind, Option.bind]
  exact eqCoded_isSome pq qp

theorem termProduct_isSome (restart : Bool) : ∀ (fs : List (Bool × Nat)) (acc : Poly K) (first : Bool),
    (Idx.termProduct restart fs acc first).isSome
  | [], acc, _ => by simp [Idx.termProduct]
  | (cre, i) :: rest, acc, first => by
    obtain ⟨p, hp⟩ := Option.isSome_iff_exists.mp (mul_isSome acc (if cre then opCdag i else opC i : Poly K))
    simp only [Idx.termProduct, hp]
    by_cases h : (if restart then acc.isEmpty else first) = true
    · rw [if_pos h]; exact termProduct_isSome restart rest _ false
    · rw [if_neg h]; exact termProduct_isSome restart rest p false

theorem indexHamiltonian_isSome (L : Lat.Lattice K) (tbl : List Idx.IndexInfo) :
    (Idx.indexHamiltonian L tbl).isSome := by
  unfold Idx.indexHamiltonian
  refine foldlM_option_isSome _ ?_ _ []
  intro H n
  refine foldlM_option_isSome _ ?_ _ H
  intro H' t
  obtain ⟨tmp, ht⟩ := Option.isSome_iff_exists.mp (termProduct_isSome (K := K)
    Pomerol.Gen.Core.productRestartsOnEmpty
    ((List.range t.order).map fun i =>
      (t.ops.getD i false, Idx.getIndex tbl ⟨t.labels.getD i "", t.orbs.getD i 0, t.spins.getD i 0⟩))
    [] true)
  simp only [ht]
  rfl

theorem checkSymmetry_ok (H : Poly K) (n : Nat) (op : Poly K) : ∃ b, Symm.checkSymmetry H n op = .ok b := by
  unfold Symm.checkSymmetry
  have hflag : Pomerol.Gen.Core.eqLengthTest = true := rfl
  rw [hflag]
  obtain ⟨c, hc⟩ := Option.isSome_iff_exists.mp (commutes_isSome H op)
  rw [hc]
  cases c with
  | false => exact ⟨false, rfl⟩
  | true =>
    refine except_bind_ok (foldlM_except_ok _ (fun ok i => ite_ok ⟨false, rfl⟩ ?_) _ _)
      fun ok1 => ite_ok ⟨ok1, rfl⟩ (foldlM_except_ok _ (fun ok i => ite_ok ⟨false, rfl⟩ ?_) _ _)
    · obtain ⟨b, hb⟩ := Option.isSome_iff_exists.mp (commutes_isSome (opN i : Poly K) op)
      exact ⟨b, by simp only [hb]; rfl⟩
    · obtain ⟨b, hb⟩ := Option.isSome_iff_exists.mp (commutator_isSome op (opCdag i : Poly K))
      exact ⟨_, by simp only [hb]; rfl⟩

theorem computeCustom_ok (H : Poly K) (n : Nat) (ops : List (Poly K)) :
    ∃ acc, Symm.computeCustom H n ops = .ok acc := by
  unfold Symm.computeCustom
  refine foldlM_except_ok _ ?_ _ _
  intro acc op
  exact except_bind_ok (checkSymmetry_ok H n op) (fun ok => ⟨_, rfl⟩)

/-- the symmetry analysis never fails with `fuel`/`ub`: the only possible error is the S_z constructor,
which is excluded by the guard (with the current flags the default analysis completes for EVERY lattice) -/
theorem computeDefault_ok (H : Poly K) (tbl : List Idx.IndexInfo) (ignore : Bool) (half : K) :
    ∃ acc, Symm.computeDefault H tbl ignore half = .ok acc := by
  have hflag : Pomerol.Gen.Core.szGuardedByEqualCounts = true := rfl
  unfold Symm.computeDefault
  rw [hflag]
  -- the shape of the program: every branch ends in `pure`, every bind is a `checkSymmetry`
  exact ite_ok ⟨_, rfl⟩ <| except_bind_ok (checkSymmetry_ok H _ _) fun _ =>
    ite_ok ⟨_, rfl⟩ <| ite_ok ⟨_, rfl⟩ <|
      except_bind_ok (checkSymmetry_ok H _ _) fun _ => ⟨_, rfl⟩

end

end Pomerol.Spec
