import PomerolModel.Model.Dispatcher
import PomerolModel.Spec.ListLemmas

/-
  The worker pool that the two dispatcher models have in common (`Model/Dispatcher.lean`: rank 0 is master and
  worker; `Model/DispatcherDedicated.lean`: rank 0 only dispatches): the master's stacks, flags and dispatch map, the
  workers' records, the channels and the ghost log, with the operations both models perform on them -- `order()`, the
  Finish phase of `check_workers`, the reception of a completion token, and the worker's receive/execute/report step.

  `Pool.Inv lv N jobs p` is the inductive invariant, preserved by every operation for every `lv`; `lv i` says that
  worker `i` leaves its loop as soon as it has received `Finish` (every rank but a root that is also the master), which
  is all that the pool sees of the difference between the two models.

  `Pool.measure` is the progress measure, a plain `Nat`.  At the end: schedules (`Sched.Reach`) of any transition
  system whose step is a pair `(rank, sees)`.  Core Lean only.
-/

namespace Pomerol.Spec.Disp
open Pomerol.Model.Disp

theorem getElem?_set' {α : Type} (l : List α) (i k : Nat) (v : α) :
    (l.set i v)[k]? = if i = k ∧ i < l.length then some v else l[k]? := by
  rw [List.getElem?_set]
  by_cases hik : i = k
  · subst hik
    by_cases hl : i < l.length <;> simp [hl]
  · simp [hik]

theorem getD_set {α : Type} (l : List α) (i k : Nat) (v d : α) :
    (l.set i v).getD k d = if i = k ∧ i < l.length then v else l.getD k d := by
  rw [List.getD_eq_getElem?_getD, List.getD_eq_getElem?_getD, getElem?_set']
  split <;> rfl

theorem getElem?_set_getD {α : Type} (l : List α) (r i : Nat) (v d : α) (h : r < l.length) :
    (l.set r v)[i]?.getD d = if i = r then v else l[i]?.getD d := by
  rw [← List.getD_eq_getElem?_getD, ← List.getD_eq_getElem?_getD, getD_set]
  exact ite_congr (propext ⟨fun hc => hc.1.symm, fun hc => ⟨hc.symm, h⟩⟩) (fun _ => rfl) (fun _ => rfl)

theorem forall_mem_of_getD {α : Type} {l : List α} {d : α} (h : ∀ i, i < l.length → l[i]?.getD d = d) :
    ∀ x ∈ l, x = d := by
  intro x hx
  obtain ⟨i, hi⟩ := List.mem_iff_getElem?.1 hx
  have := h i (List.getElem?_eq_some_iff.1 hi).1
  rwa [hi] at this

theorem set_eq_self {α : Type} (l : List α) (i : Nat) (v : α) (h : l[i]? = some v) : l.set i v = l := by
  obtain ⟨hi, rfl⟩ := List.getElem?_eq_some_iff.1 h
  exact List.set_getElem_self hi

def wsum {α : Type} (f : α → Nat) : List α → Nat
  | [] => 0
  | a :: l => f a + wsum f l

theorem wsum_set {α : Type} (f : α → Nat) (l : List α) (i : Nat) (v d : α) (h : i < l.length) :
    wsum f (l.set i v) + f (l.getD i d) = wsum f l + f v := by
  induction l generalizing i with
  | nil => simp at h
  | cons a l ih => cases i with
    | zero => simp only [List.set_cons_zero, List.getD_cons_zero, wsum]; omega
    | succ i =>
      simp only [List.set_cons_succ, List.getD_cons_succ, wsum]
      rw [Nat.add_assoc, ih i (Nat.lt_of_succ_lt_succ h), Nat.add_assoc]

theorem wsum_set_of_getElem? {α : Type} (f : α → Nat) (l : List α) (i : Nat) (a v : α) (h : l[i]? = some a) :
    wsum f (l.set i v) + f a = wsum f l + f v := by
  obtain ⟨hi, rfl⟩ := List.getElem?_eq_some_iff.1 h
  have := wsum_set f l i v l[i] hi
  rwa [List.getD_eq_getElem?_getD, List.getElem?_eq_getElem hi] at this

theorem wsum_replicate {α : Type} (f : α → Nat) (n : Nat) (a : α) : wsum f (List.replicate n a) = n * f a := by
  induction n with
  | zero => simp [wsum]
  | succ n ih => simp [List.replicate_succ, wsum, ih, Nat.succ_mul]; omega

theorem count_true_set (l : List Bool) (i : Nat) (v : Bool) (h : i < l.length) :
    (l.set i v).count true + (if l.getD i false = true then 1 else 0) = l.count true + (if v = true then 1 else 0) := by
  have hle : (if l[i] = true then 1 else 0) ≤ l.count true := by
    split
    · rename_i hb; exact List.count_pos_iff.2 (hb ▸ List.getElem_mem h)
    · exact Nat.zero_le _
  rw [List.count_set h, List.getD_eq_getElem?_getD, List.getElem?_eq_getElem h]
  simp only [beq_iff_eq, Option.getD_some]
  rw [Nat.add_right_comm, Nat.sub_add_cancel hle]

theorem count_true_eq_zero (l : List Bool) : l.count true = 0 ↔ ∀ i : Nat, l[i]?.getD false = false := by
  rw [List.count_eq_zero, List.mem_iff_getElem?]
  constructor
  · intro h i
    cases hi : l[i]? with
    | none => rfl
    | some b =>
      cases b
      · rfl
      · exact absurd ⟨i, hi⟩ h
  · rintro h ⟨i, hi⟩
    have := h i
    rw [hi] at this
    cases this

theorem keys_functional (l : List (Nat × Nat)) (h : (l.map (·.1)).Nodup) (a b b' : Nat)
    (h1 : (a, b) ∈ l) (h2 : (a, b') ∈ l) : b = b' := by
  have hP := List.pairwise_map.1 h
  -- both entries are what `find?` by the key `a` finds
  have e := ((find?_key_iff (·.1) hP a (a, b)).2 ⟨h1, rfl⟩).symm.trans
    ((find?_key_iff (·.1) hP a (a, b')).2 ⟨h2, rfl⟩)
  cases e; rfl

theorem dmapGet_of_mem (d : List (Nat × Nat)) (h : (d.map (·.1)).Nodup) (j i : Nat) (hm : (j, i) ∈ d) :
    dmapGet d j = some i := by
  have hP := List.pairwise_map.1 h
  rw [dmapGet, (find?_key_iff (·.1) hP j (j, i)).2 ⟨hm, rfl⟩]
  rfl

theorem dmapGet_isSome (d : List (Nat × Nat)) (j : Nat) : (dmapGet d j).isSome ↔ j ∈ d.map (·.1) := by
  rw [dmapGet, Option.isSome_map, List.find?_isSome, List.mem_map]
  constructor
  · rintro ⟨x, hx, h⟩; exact ⟨x, hx, beq_iff_eq.1 h⟩
  · rintro ⟨x, hx, h⟩; exact ⟨x, hx, beq_iff_eq.2 h⟩

theorem length_filter_job (log : List (Nat × Nat)) (j : Nat) :
    (log.filter (·.1 = j)).length = (log.map (·.1)).count j := by
  rw [List.count_eq_countP, List.countP_map, List.countP_eq_length_filter]
  congr 1

def workCount : List Msg → Nat
  | [] => 0
  | Msg.work _ :: l => workCount l + 1
  | Msg.finish :: l => workCount l

theorem workCount_append (a b : List Msg) : workCount (a ++ b) = workCount a + workCount b := by
  induction a with
  | nil => simp [workCount]
  | cons x a ih => cases x <;> simp [workCount, ih] <;> omega

def wW (w : Worker) : Nat := (if w.st = .finish then 0 else 1) + (if w.exited then 0 else 1)
def wF (b : Bool) : Nat := if b then 0 else 1
def wD (d : List Msg) : Nat := 2 * workCount d

/-- the channels after the `Finish` broadcast loop over the first `n` workers -/
def finDown (fin : List Bool) (d : List (List Msg)) (n : Nat) : List (List Msg) :=
  (List.range n).foldl (fun d i => if fin.getD i false then d else d.set i (d.getD i [] ++ [Msg.finish])) d

theorem finDown_succ (fin : List Bool) (d : List (List Msg)) (n : Nat) :
    finDown fin d (n+1) = if fin.getD n false then finDown fin d n
      else (finDown fin d n).set n ((finDown fin d n).getD n [] ++ [Msg.finish]) := by
  rw [finDown, List.range_succ, List.foldl_append]
  rfl

theorem finDown_length (fin : List Bool) (d : List (List Msg)) (n : Nat) : (finDown fin d n).length = d.length := by
  induction n with
  | zero => rfl
  | succ n ih => rw [finDown_succ]; split <;> simp [ih]

theorem finDown_get (fin : List Bool) (d : List (List Msg)) (n i : Nat) :
    (finDown fin d n)[i]?.getD [] =
      if i < n ∧ i < d.length ∧ fin[i]?.getD false = false then d[i]?.getD [] ++ [Msg.finish] else d[i]?.getD [] := by
  induction n with
  | zero => rfl
  | succ n ih =>
    rw [finDown_succ, ← List.getD_eq_getElem?_getD, apply_ite (List.getD · i []), getD_set, finDown_length]
    grind

theorem finDown_all_true (n : Nat) (d : List (List Msg)) : finDown (List.replicate n true) d n = d := by
  -- every step of the loop finds its flag set
  suffices h : ∀ m, m ≤ n → finDown (List.replicate n true) d m = d from h n (Nat.le_refl n)
  intro m
  induction m with
  | zero => exact fun _ => rfl
  | succ m ih =>
    intro hm
    rw [finDown_succ, ih (Nat.le_of_succ_le hm), List.getD_eq_getElem?_getD, List.getElem?_replicate,
      if_pos (Nat.lt_of_succ_le hm)]
    rfl

theorem wsum_finDown (fin : List Bool) (d : List (List Msg)) (n : Nat) : wsum wD (finDown fin d n) = wsum wD d := by
  induction n with
  | zero => rfl
  | succ n ih =>
    rw [finDown_succ]
    split
    · exact ih
    · by_cases hn : n < (finDown fin d n).length
      · have := wsum_set wD (finDown fin d n) n ((finDown fin d n).getD n [] ++ [Msg.finish]) [] hn
        simp [wD, workCount_append, workCount] at this
        simp at ih ⊢
        omega
      · rw [List.set_eq_of_length_le (Nat.le_of_not_lt hn)]; exact ih

end Pomerol.Spec.Disp

namespace Pomerol.Spec
open Pomerol.Model.Disp (Msg WStatus Worker orderLoop dmapGet)
open Pomerol.Spec.Disp

/-- what the two dispatcher models have in common: the master's stacks, flags and map (`jobs` … `dmap`, as in
`Disp.Master`), the workers' records, the two families of channels and the ghost log (as in `Disp.Sys`) -/
structure Pool where
  jobs : List Nat
  idle : List Nat
  wait : List Bool
  fin : List Bool
  dmap : List (Nat × Nat)
  ws : List Worker
  down : List (List Msg)
  up : List Nat
  log : List (Nat × Nat)

namespace Pool

abbrev dn (p : Pool) (i : Nat) : List Msg := p.down[i]?.getD []
abbrev upc (p : Pool) (i : Nat) : Nat := p.up[i]?.getD 0
abbrev wt (p : Pool) (i : Nat) : Bool := p.wait[i]?.getD false

def init (N : Nat) (jobOrder : List Nat) : Pool :=
  { jobs := jobOrder, idle := List.range N, wait := List.replicate N false, fin := List.replicate N false, dmap := [],
    ws := List.replicate N {}, down := List.replicate N [], up := List.replicate N 0, log := [] }

/-- one hand-out of `order` -/
def assign (p : Pool) (j w : Nat) (js ws : List Nat) : Pool :=
  { p with jobs := js, idle := ws, wait := p.wait.set w true, dmap := (j, w) :: p.dmap,
           down := p.down.set w (p.down.getD w [] ++ [Msg.work j]) }

/-- `MPIMaster::order()` -/
def order (p : Pool) : Pool :=
  let (jobs, idle, wait, dmap, down) := orderLoop p.jobs p.idle p.wait p.dmap p.down
  { p with jobs := jobs, idle := idle, wait := wait, dmap := dmap, down := down }

/-- The part of `check_workers` after the polling loop, for `n` workers. -/
def finishPhase (n : Nat) (p : Pool) : Pool :=
  if p.jobs = [] ∧ n ≤ p.idle.length then
    { p with fin := List.replicate n true, down := finDown p.fin p.down n }
  else p

/-- the master receives the completion token of worker `k` -/
def collect (p : Pool) (k : Nat) : Pool :=
  { p with wait := p.wait.set k false, idle := k :: p.idle, up := p.up.set k (p.upc k - 1) }

/-- worker `r` (record `w`) receives `work j` and executes it -/
def doWork (p : Pool) (r : Nat) (w : Worker) (j : Nat) (rest : List Msg) : Pool :=
  { p with ws := p.ws.set r { w with st := .pending, cur := some j },
           down := p.down.set r rest, up := p.up.set r (p.upc r + 1), log := p.log ++ [(j, r)] }

/-- worker `r` receives `finish`; `e`: it leaves its loop right away -/
def doFin (p : Pool) (r : Nat) (w : Worker) (e : Bool) (rest : List Msg) : Pool :=
  { p with ws := p.ws.set r { w with st := .finish, exited := e }, down := p.down.set r rest }

def exit (p : Pool) (r : Nat) (w : Worker) : Pool := { p with ws := p.ws.set r { w with exited := true } }

/-- `MPIWorker::receive_order` followed by the job and `report_job_done`, as both models have it: the `test()` of a
worker in its loop sees nothing (`sees = false`) or the first message of its channel.  `e` says whether a worker that
has received `Finish` re-evaluates its loop condition right away. -/
def workerTest (p : Pool) (r : Nat) (e : Bool) (sees : Bool) : Option Pool :=
  match p.ws[r]? with
  | none => none
  | some w =>
    if w.exited = false ∧ w.st = .pending then
      if sees then
        match p.dn r with
        | [] => none
        | Msg.work j :: rest => some (p.doWork r w j rest)
        | Msg.finish :: rest => some (p.doFin r w e rest)
      else some p
    else none

theorem order_cons (p : Pool) (j w : Nat) (js ws : List Nat) (h1 : p.jobs = j :: js) (h2 : p.idle = w :: ws) :
    order p = order (assign p j w js ws) := by
  simp [order, assign, h1, h2, orderLoop]

theorem order_nil_jobs (p : Pool) (h : p.jobs = []) : order p = p := by
  obtain ⟨jobs, idle, wait, fin, dmap, ws, down, up, log⟩ := p
  simp at h; subst h
  simp [order, orderLoop]

theorem order_nil_idle (p : Pool) (h : p.idle = []) : order p = p := by
  obtain ⟨jobs, idle, wait, fin, dmap, ws, down, up, log⟩ := p
  simp at h; subst h
  cases jobs <;> simp [order, orderLoop]

theorem order_induction {C : Pool → Prop}
    (step : ∀ p j w js ws, p.jobs = j :: js → p.idle = w :: ws → C p → C (p.assign j w js ws))
    (p : Pool) (h : C p) : C p.order := by
  induction hn : p.jobs.length generalizing p with
  | zero => rw [order_nil_jobs p (by simpa using hn)]; exact h
  | succ n ih =>
    match hj : p.jobs, hi : p.idle with
    | [], _ => simp [hj] at hn
    | j :: js, [] => rw [order_nil_idle p hi]; exact h
    | j :: js, w :: ws =>
      rw [order_cons p j w js ws hj hi]
      exact ih _ (step p j w js ws hj hi h) (by rw [hj] at hn; exact Nat.succ.inj hn)

theorem finishPhase_ws (n : Nat) (p : Pool) : (p.finishPhase n).ws = p.ws := by
  unfold finishPhase; split <;> rfl

theorem workerTest_cases {p p' : Pool} {r : Nat} {e b : Bool} (h : p.workerTest r e b = some p') :
    ∃ w, p.ws[r]? = some w ∧ w.exited = false ∧ w.st = .pending ∧
      ((b = false ∧ p' = p) ∨ (∃ j rest, p.dn r = Msg.work j :: rest ∧ p' = p.doWork r w j rest) ∨
       (∃ rest, p.dn r = Msg.finish :: rest ∧ p' = p.doFin r w e rest)) := by
  unfold workerTest at h
  split at h
  · cases h
  · rename_i w hw
    split at h
    · rename_i hc
      refine ⟨w, hw, hc.1, hc.2, ?_⟩
      cases b
      · exact Or.inl ⟨rfl, by cases h; rfl⟩
      · simp only [if_true] at h
        split at h
        · cases h
        · rename_i j rest hd; cases h; exact Or.inr (Or.inl ⟨j, rest, hd, rfl⟩)
        · rename_i rest hd; cases h; exact Or.inr (Or.inr ⟨rest, hd, rfl⟩)
    · cases h

theorem workerTest_false {p : Pool} {r : Nat} {w : Worker} (e : Bool) (hw : p.ws[r]? = some w)
    (he : w.exited = false) (hp : w.st = .pending) : p.workerTest r e false = some p := by
  simp [workerTest, hw, he, hp]

theorem workerTest_frame {p p' : Pool} {r : Nat} {e b : Bool} (h : p.workerTest r e b = some p') :
    p'.fin = p.fin ∧ ∀ i, i ≠ r → p'.ws[i]? = p.ws[i]? := by
  obtain ⟨w, _, _, _, hc⟩ := workerTest_cases h
  rcases hc with ⟨_, rfl⟩ | ⟨j, rest, _, rfl⟩ | ⟨rest, _, rfl⟩
  · exact ⟨rfl, fun _ _ => rfl⟩
  · exact ⟨rfl, fun i hi => List.getElem?_set_ne (Ne.symm hi)⟩
  · exact ⟨rfl, fun i hi => List.getElem?_set_ne (Ne.symm hi)⟩

/-- the five phases of a worker within a round, seen from the global state:
A idle / B job assigned, message in flight / C job done, token in flight / D `Finish` in flight / E finished.
`b` says whether the master has already broadcast `Finish`; `lv` whether this worker leaves its loop as soon as it
has received `Finish`. -/
def Phase (lv : Prop) (b : Bool) (idl : Prop) (wt : Bool) (d : List Msg) (u : Nat) (w : Worker) : Prop :=
  (b = false ∧ idl ∧ wt = false ∧ d = [] ∧ u = 0 ∧ w.st = .pending ∧ w.exited = false) ∨
  (b = false ∧ ¬ idl ∧ wt = true ∧ (∃ j, d = [Msg.work j]) ∧ u = 0 ∧ w.st = .pending ∧ w.exited = false) ∨
  (b = false ∧ ¬ idl ∧ wt = true ∧ d = [] ∧ u = 1 ∧ w.st = .pending ∧ w.exited = false) ∨
  (b = true ∧ idl ∧ wt = false ∧ d = [Msg.finish] ∧ u = 0 ∧ w.st = .pending ∧ w.exited = false) ∨
  (b = true ∧ idl ∧ wt = false ∧ d = [] ∧ u = 0 ∧ w.st = .finish ∧ (lv → w.exited = true))

namespace Phase
variable {lv : Prop} {b : Bool} {idl : Prop} {wt : Bool} {d : List Msg} {u : Nat} {w : Worker}

theorem mk_idle (hi : idl) (hw : w.st = .pending) (he : w.exited = false) : Phase lv false idl false [] 0 w :=
  Or.inl ⟨rfl, hi, rfl, rfl, rfl, hw, he⟩

theorem mk_assigned (hi : ¬ idl) (j : Nat) (hw : w.st = .pending) (he : w.exited = false) :
    Phase lv false idl true [Msg.work j] 0 w :=
  Or.inr (Or.inl ⟨rfl, hi, rfl, ⟨j, rfl⟩, rfl, hw, he⟩)

theorem mk_done (hi : ¬ idl) (hw : w.st = .pending) (he : w.exited = false) : Phase lv false idl true [] 1 w :=
  Or.inr (Or.inr (Or.inl ⟨rfl, hi, rfl, rfl, rfl, hw, he⟩))

theorem mk_finishing (hi : idl) (hw : w.st = .pending) (he : w.exited = false) :
    Phase lv true idl false [Msg.finish] 0 w :=
  Or.inr (Or.inr (Or.inr (Or.inl ⟨rfl, hi, rfl, rfl, rfl, hw, he⟩)))

theorem mk_finished (hi : idl) (hw : w.st = .finish) (he : lv → w.exited = true) : Phase lv true idl false [] 0 w :=
  Or.inr (Or.inr (Or.inr (Or.inr ⟨rfl, hi, rfl, rfl, rfl, hw, he⟩)))

theorem of_idle (h : Phase lv b idl wt d u w) (hb : b = false) (hi : idl) :
    wt = false ∧ d = [] ∧ u = 0 ∧ w.st = .pending ∧ w.exited = false := by
  rcases h with h|h|h|h|h <;> simp_all

theorem of_not_waited (h : Phase lv false idl wt d u w) (hw : wt = false) :
    idl ∧ d = [] ∧ u = 0 ∧ w.st = .pending ∧ w.exited = false := by
  rcases h with h|h|h|h|h <;> simp_all

theorem of_work {j : Nat} {rest : List Msg} (h : Phase lv b idl wt (Msg.work j :: rest) u w) :
    b = false ∧ ¬ idl ∧ wt = true ∧ rest = [] ∧ u = 0 ∧ w.exited = false := by
  rcases h with h|h|h|h|h <;> simp_all

theorem of_finish {rest : List Msg} (h : Phase lv b idl wt (Msg.finish :: rest) u w) :
    b = true ∧ idl ∧ wt = false ∧ rest = [] ∧ u = 0 := by
  rcases h with h|h|h|h|h <;> simp_all

theorem of_token (h : Phase lv b idl wt d u w) (hw : wt = true) (hu : 0 < u) :
    b = false ∧ ¬ idl ∧ d = [] ∧ u = 1 ∧ w.st = .pending ∧ w.exited = false := by
  rcases h with h|h|h|h|h <;> simp_all <;> omega

theorem token_of_waited (h : Phase lv b idl wt d u w) (hd : d = []) (hw : wt = true) : 0 < u := by
  rcases h with h|h|h|h|h <;> simp_all

theorem pending_of_msg (h : Phase lv b idl wt d u w) (hd : d ≠ []) : w.st = .pending ∧ w.exited = false := by
  rcases h with h|h|h|h|h <;> simp [h] at hd ⊢

theorem pending_of_not_fin (h : Phase lv false idl wt d u w) : w.st = .pending := by
  rcases h with h|h|h|h|h <;> simp_all

theorem pending_or_finish (h : Phase lv b idl wt d u w) : w.st = .pending ∨ w.st = .finish := by
  rcases h with h|h|h|h|h <;> simp [h]

theorem finished_of_quiet (h : Phase lv true idl wt d u w) (hd : d = []) : w.st = .finish ∧ (lv → w.exited = true) := by
  rcases h with h|h|h|h|h <;> simp_all

theorem of_exited (h : Phase lv b idl wt d u w) (he : w.exited = true) : b = true ∧ wt = false ∧ d = [] ∧ u = 0 := by
  rcases h with h|h|h|h|h <;> simp [h] at he ⊢

theorem exit (h : Phase lv b idl wt d u w) (hw : w.st = .finish) : Phase lv b idl wt d u { w with exited := true } := by
  rcases h with h|h|h|h|h <;> simp_all [Phase]

end Phase

/-- the invariant of the pool: `N` workers, `jobs` the job order of the round -/
structure Inv (lv : Nat → Prop) (N : Nat) (jobs : List Nat) (p : Pool) : Prop where
  lw : p.wait.length = N
  lws : p.ws.length = N
  ld : p.down.length = N
  lu : p.up.length = N
  idl_lt : ∀ i ∈ p.idle, i < N
  idl_nd : p.idle.Nodup
  /-- every worker is idle or waited for -/
  cnt : p.idle.length + p.wait.count true = N
  /-- conservation: the job stack is a suffix of the job order, `dmap` records exactly the jobs handed out -/
  K : (p.dmap.map (·.1)).reverse ++ p.jobs = jobs
  /-- a job is executed only by the worker it was handed to -/
  L1 : ∀ x ∈ p.log, x ∈ p.dmap
  /-- no job is executed twice -/
  L2 : (p.log.map (·.1)).Nodup
  /-- a job handed out is in flight, as the only message of its worker's channel, or executed (`D2`: never both) -/
  D1 : ∀ j i, (j, i) ∈ p.dmap → i < N ∧ (p.dn i = [Msg.work j] ∨ (j, i) ∈ p.log)
  D2 : ∀ i j, p.dn i = [Msg.work j] → (j, i) ∈ p.dmap ∧ j ∉ p.log.map (·.1)
  ph : ∃ b, p.fin = List.replicate N b ∧ (b = true → p.jobs = []) ∧
        ∀ i, i < N → ∃ w, p.ws[i]? = some w ∧ Phase (lv i) b (i ∈ p.idle) (p.wt i) (p.dn i) (p.upc i) w

theorem Phase.transfer {lv : Prop} {b : Bool} {p p' : Pool} {i : Nat}
    (h : ∃ w, p.ws[i]? = some w ∧ Phase lv b (i ∈ p.idle) (p.wt i) (p.dn i) (p.upc i) w)
    (hws : p'.ws[i]? = p.ws[i]?) (hidl : i ∈ p'.idle ↔ i ∈ p.idle) (hwt : p'.wt i = p.wt i)
    (hdn : p'.dn i = p.dn i) (hup : p'.upc i = p.upc i) :
    ∃ w, p'.ws[i]? = some w ∧ Phase lv b (i ∈ p'.idle) (p'.wt i) (p'.dn i) (p'.upc i) w := by
  rw [hws, hwt, hdn, hup, propext hidl]; exact h

namespace Inv
variable {lv : Nat → Prop} {N : Nat} {jobs : List Nat} {p : Pool}

theorem init (lv : Nat → Prop) (N : Nat) (jobs : List Nat) : Inv lv N jobs (Pool.init N jobs) := by
  have hdn : ∀ i, (Pool.init N jobs).dn i = [] := by
    intro i
    simp only [Pool.init, dn, List.getElem?_replicate]
    split <;> rfl
  exact
  { lw := List.length_replicate
    lws := List.length_replicate
    ld := List.length_replicate
    lu := List.length_replicate
    idl_lt := fun i hi => List.mem_range.1 hi
    idl_nd := List.nodup_range
    cnt := by simp [Pool.init, List.count_replicate]
    K := rfl
    L1 := fun _ hx => nomatch hx
    L2 := List.nodup_nil
    D1 := fun _ _ hm => nomatch hm
    D2 := fun i j hd => by rw [hdn] at hd; cases hd
    ph := by
      refine ⟨false, rfl, by simp, ?_⟩
      intro i hi
      refine ⟨{}, by simp [Pool.init, hi], ?_⟩
      have h1 : (Pool.init N jobs).wt i = false := by simp [Pool.init, wt, hi]
      have h3 : (Pool.init N jobs).upc i = 0 := by simp [Pool.init, upc, hi]
      rw [h1, hdn, h3]
      exact Phase.mk_idle (by simp [Pool.init, hi]) rfl rfl }

theorem keys_nd (h : Inv lv N jobs p) (hnd : jobs.Nodup) : (p.dmap.map (·.1)).Nodup := by
  rw [← h.K] at hnd
  exact (List.Perm.nodup_iff (List.reverse_perm _)).1 (List.nodup_append.1 hnd).1

theorem lt_of_ws (h : Inv lv N jobs p) {r : Nat} {w : Worker} (hw : p.ws[r]? = some w) : r < N := by
  rw [← h.lws]; exact (List.getElem?_eq_some_iff.1 hw).1

theorem assign (hnd : jobs.Nodup) (h : Inv lv N jobs p) {j w : Nat} {js ws : List Nat}
    (h1 : p.jobs = j :: js) (h2 : p.idle = w :: ws) : Inv lv N jobs (p.assign j w js ws) := by
  obtain ⟨b, hfin, hbj, hph⟩ := h.ph
  have hb : b = false := by
    cases b
    · rfl
    · simp [h1] at hbj
  subst hb
  have hwP : w < N := h.idl_lt w (by simp [h2])
  have hnd2 := h.idl_nd
  rw [h2, List.nodup_cons] at hnd2
  obtain ⟨ww, hww, hphw⟩ := hph w hwP
  obtain ⟨hwt, hdw, huw, hst, hex⟩ := hphw.of_idle rfl (by simp [h2])
  have hK := h.K
  rw [h1] at hK
  have hj : j ∉ p.dmap.map (·.1) := by
    intro hc
    rw [← hK] at hnd
    exact (List.nodup_append.1 hnd).2.2 j (List.mem_reverse.2 hc) j List.mem_cons_self rfl
  have hdn : ∀ i, (p.assign j w js ws).dn i = if i = w then [Msg.work j] else p.dn i := by
    intro i
    have hg : p.down.getD w [] = [] := by rw [List.getD_eq_getElem?_getD]; exact hdw
    show (p.down.set w (p.down.getD w [] ++ [Msg.work j]))[i]?.getD [] = _
    rw [hg]
    exact getElem?_set_getD p.down w i _ [] (by rw [h.ld]; exact hwP)
  have hwt' : ∀ i, (p.assign j w js ws).wt i = if i = w then true else p.wt i :=
    fun i => getElem?_set_getD p.wait w i true false (by rw [h.lw]; exact hwP)
  exact
  { h with
    lw := List.length_set.trans h.lw
    ld := List.length_set.trans h.ld
    idl_lt := fun i hi => h.idl_lt i (by rw [h2]; exact List.mem_cons_of_mem _ hi)
    idl_nd := hnd2.2
    cnt := by
      have := count_true_set p.wait w true (by rw [h.lw]; exact hwP)
      have hc := h.cnt
      simp only [Pool.wt] at hwt
      simp [h2, hwt] at this hc
      simp [Pool.assign]; omega
    K := by simp [Pool.assign]; simpa using hK
    L1 := fun x hx => List.mem_cons_of_mem _ (h.L1 x hx)
    D1 := by
      intro j' i' hm
      rw [hdn]
      rcases List.mem_cons.1 hm with hm | hm
      · cases hm; exact ⟨hwP, Or.inl (by simp)⟩
      · obtain ⟨hi', hor⟩ := h.D1 j' i' hm
        refine ⟨hi', ?_⟩
        by_cases hiw : i' = w
        · subst hiw
          rw [hdw] at hor
          exact Or.inr (hor.resolve_left (by simp))
        · rw [if_neg hiw]; exact hor
    D2 := by
      intro i' j' hd
      rw [hdn] at hd
      by_cases hiw : i' = w
      · subst hiw
        rw [if_pos rfl] at hd; cases hd
        exact ⟨List.mem_cons_self, fun hc => by
          obtain ⟨x, hx, rfl⟩ := List.mem_map.1 hc
          exact hj (List.mem_map.2 ⟨x, h.L1 x hx, rfl⟩)⟩
      · rw [if_neg hiw] at hd
        exact ⟨List.mem_cons_of_mem _ (h.D2 i' j' hd).1, (h.D2 i' j' hd).2⟩
    ph := by
      refine ⟨false, hfin, by simp, ?_⟩
      intro i hi
      by_cases hiw : i = w
      · subst hiw
        refine ⟨ww, hww, ?_⟩
        rw [hdn, hwt', if_pos rfl, if_pos rfl]
        show Phase (lv i) false (i ∈ ws) _ _ (p.upc i) ww
        rw [huw]
        exact Phase.mk_assigned hnd2.1 j hst hex
      · exact Phase.transfer (hph i hi) rfl (by rw [h2]; exact (List.mem_cons.trans (or_iff_right hiw)).symm)
          (by rw [hwt', if_neg hiw]) (by rw [hdn, if_neg hiw]) rfl }

theorem order (hnd : jobs.Nodup) (h : Inv lv N jobs p) : Inv lv N jobs p.order :=
  order_induction (fun _ _ _ _ _ hj hi h => h.assign hnd hj hi) p h

theorem not_waited_of_all_idle (h : Inv lv N jobs p) (hl : N ≤ p.idle.length) (i : Nat) : p.wt i = false := by
  have hc := h.cnt
  exact (count_true_eq_zero p.wait).1 (by omega) i

theorem idle_full (h : Inv lv N jobs p) (hwt : ∀ i, i < N → p.wt i = false) : p.idle.length = N := by
  have hcount : p.wait.count true = 0 := by
    rw [count_true_eq_zero]
    intro i
    by_cases hi : i < N
    · exact hwt i hi
    · rw [List.getElem?_eq_none (by rw [h.lw]; omega)]; rfl
  have := h.cnt; omega

theorem finishPhase (h : Inv lv N jobs p) : Inv lv N jobs (p.finishPhase N) := by
  unfold Pool.finishPhase
  split
  case isFalse => exact h
  case isTrue hc =>
    obtain ⟨hj, hl⟩ := hc
    obtain ⟨b, hfin, hbj, hph⟩ := h.ph
    cases b
    · -- everybody is in phase A and goes to phase D
      have hA : ∀ i, i < N → ∃ w, p.ws[i]? = some w ∧ i ∈ p.idle ∧ p.dn i = [] ∧ p.upc i = 0 ∧
          w.st = .pending ∧ w.exited = false := by
        intro i hi
        obtain ⟨w, hw, hp⟩ := hph i hi
        exact ⟨w, hw, hp.of_not_waited (h.not_waited_of_all_idle hl i)⟩
      have hdn : ∀ i, ({ p with fin := List.replicate N true, down := finDown p.fin p.down N } : Pool).dn i
          = if i < N then [Msg.finish] else p.dn i := by
        intro i
        show (finDown p.fin p.down N)[i]?.getD [] = _
        rw [finDown_get, hfin, h.ld]
        by_cases hi : i < N
        · obtain ⟨_, _, _, hd, _⟩ := hA i hi
          simp only [Pool.dn] at hd
          simp [hi, hd]
        · simp [hi]
      exact
      { h with
        ld := (finDown_length _ _ _).trans h.ld
        D1 := by
          intro j i hm
          obtain ⟨hi, hor⟩ := h.D1 j i hm
          obtain ⟨_, _, _, hd, _⟩ := hA i hi
          rw [hd] at hor
          exact ⟨hi, Or.inr (hor.resolve_left (by simp))⟩
        D2 := by
          intro i j hd
          rw [hdn] at hd
          split at hd
          · cases hd
          · exact h.D2 i j hd
        ph := by
          refine ⟨true, rfl, fun _ => hj, ?_⟩
          intro i hi
          obtain ⟨w, hw, hidl, _, hu, hst, hex⟩ := hA i hi
          refine ⟨w, hw, ?_⟩
          rw [hdn, if_pos hi]
          show Phase (lv i) true (i ∈ p.idle) (p.wt i) _ (p.upc i) w
          rw [h.not_waited_of_all_idle hl i, hu]
          exact Phase.mk_finishing hidl hst hex }
    · -- `Finish` has been sent already: nothing changes
      rw [hfin, finDown_all_true]
      exact hfin ▸ h

theorem collect (h : Inv lv N jobs p) {k : Nat} (hwk : p.wt k = true) (huk : 0 < p.upc k) :
    Inv lv N jobs (p.collect k) := by
  have hk : k < N := by
    rw [← h.lw]
    refine Nat.lt_of_not_le fun hle => ?_
    -- beyond the end of the list the flag reads `false`
    rw [Pool.wt, List.getElem?_eq_none hle] at hwk
    cases hwk
  obtain ⟨b, hfin, hbj, hph⟩ := h.ph
  obtain ⟨w, hw, hp⟩ := hph k hk
  obtain ⟨hb, hki, hdk, hu1, hst, hex⟩ := hp.of_token hwk huk
  subst hb
  have hup : ∀ i, (p.collect k).upc i = if i = k then 0 else p.upc i := by
    intro i
    show (p.up.set k (p.upc k - 1))[i]?.getD 0 = _
    rw [hu1]
    exact getElem?_set_getD p.up k i 0 0 (by rw [h.lu]; exact hk)
  have hwt : ∀ i, (p.collect k).wt i = if i = k then false else p.wt i :=
    fun i => getElem?_set_getD p.wait k i false false (by rw [h.lw]; exact hk)
  exact
  { h with
    lw := List.length_set.trans h.lw
    lu := List.length_set.trans h.lu
    idl_lt := List.forall_mem_cons.2 ⟨hk, h.idl_lt⟩
    idl_nd := List.nodup_cons.2 ⟨hki, h.idl_nd⟩
    cnt := by
      have := count_true_set p.wait k false (by rw [h.lw]; exact hk)
      have hc := h.cnt
      simp only [Pool.wt] at hwk
      simp [hwk] at this
      simp [Pool.collect]; omega
    ph := by
      refine ⟨false, hfin, hbj, ?_⟩
      intro i hi
      by_cases hik : i = k
      · subst hik
        rw [hup, hwt, if_pos rfl, if_pos rfl]
        show ∃ w, p.ws[i]? = some w ∧ Phase _ false (i ∈ i :: p.idle) _ (p.dn i) _ w
        rw [hdk]
        exact ⟨w, hw, Phase.mk_idle List.mem_cons_self hst hex⟩
      · exact Phase.transfer (hph i hi) rfl (List.mem_cons.trans (or_iff_right hik)) (by rw [hwt, if_neg hik]) rfl
          (by rw [hup, if_neg hik]) }

theorem doWork (hnd : jobs.Nodup) (h : Inv lv N jobs p) {r : Nat} {w : Worker} (hw : p.ws[r]? = some w)
    {j : Nat} {rest : List Msg} (hd : p.dn r = Msg.work j :: rest) : Inv lv N jobs (p.doWork r w j rest) := by
  have hr : r < N := h.lt_of_ws hw
  obtain ⟨b, hfin, hbj, hph⟩ := h.ph
  obtain ⟨w', hw', hp⟩ := hph r hr
  rw [hw] at hw'; cases hw'
  rw [hd] at hp
  obtain ⟨hb, hri, hwr, hrest, hur, hex⟩ := hp.of_work
  subst hrest hb
  obtain ⟨hjr, hjl⟩ := h.D2 r j hd
  have hdn : ∀ i, (p.doWork r w j []).dn i = if i = r then [] else p.dn i :=
    fun i => getElem?_set_getD p.down r i [] [] (by rw [h.ld]; exact hr)
  have hup : ∀ i, (p.doWork r w j []).upc i = if i = r then 1 else p.upc i := by
    intro i
    show (p.up.set r (p.upc r + 1))[i]?.getD 0 = _
    rw [hur]
    exact getElem?_set_getD p.up r i 1 0 (by rw [h.lu]; exact hr)
  exact
  { h with
    lws := List.length_set.trans h.lws
    ld := List.length_set.trans h.ld
    lu := List.length_set.trans h.lu
    L1 := by
      intro x hx
      rcases List.mem_append.1 hx with hx | hx
      · exact h.L1 x hx
      · rw [List.mem_singleton.1 hx]; exact hjr
    L2 := by
      show ((p.log ++ [(j, r)]).map (·.1)).Nodup
      rw [List.map_append, List.nodup_append]
      refine ⟨h.L2, by simp, ?_⟩
      intro a ha c hc heq
      simp at hc; subst hc; subst heq
      exact hjl ha
    D1 := by
      intro j' i' hm
      obtain ⟨hi', hor⟩ := h.D1 j' i' hm
      refine ⟨hi', ?_⟩
      rw [hdn]
      rcases hor with hor | hor
      · by_cases hir : i' = r
        · subst hir
          rw [hd] at hor; cases hor
          exact Or.inr (List.mem_append_right _ List.mem_cons_self)
        · rw [if_neg hir]; exact Or.inl hor
      · exact Or.inr (List.mem_append_left _ hor)
    D2 := by
      intro i' j' hd'
      rw [hdn] at hd'
      by_cases hir : i' = r
      · rw [if_pos hir] at hd'; cases hd'
      · rw [if_neg hir] at hd'
        obtain ⟨h1, h2⟩ := h.D2 i' j' hd'
        refine ⟨h1, ?_⟩
        show j' ∉ (p.log ++ [(j, r)]).map (·.1)
        rw [List.map_append, List.mem_append]
        rintro (hc | hc)
        · exact h2 hc
        · -- the job just executed is assigned to `r` only
          simp at hc; subst hc
          exact hir (keys_functional _ (h.keys_nd hnd) _ _ _ h1 hjr)
    ph := by
      refine ⟨false, hfin, hbj, ?_⟩
      intro i hi
      by_cases hir : i = r
      · subst hir
        refine ⟨{ w with st := .pending, cur := some j }, List.getElem?_set_self (h.lws ▸ hi), ?_⟩
        rw [hdn, hup, if_pos rfl, if_pos rfl]
        show Phase _ false (i ∈ p.idle) (p.wt i) [] 1 _
        rw [hwr]
        exact Phase.mk_done hri rfl hex
      · exact Phase.transfer (hph i hi) (List.getElem?_set_ne (Ne.symm hir)) Iff.rfl rfl
          (by rw [hdn, if_neg hir]) (by rw [hup, if_neg hir]) }

theorem doFin (h : Inv lv N jobs p) {r : Nat} {w : Worker} (hw : p.ws[r]? = some w) {e : Bool}
    (he : lv r → e = true) {rest : List Msg} (hd : p.dn r = Msg.finish :: rest) :
    Inv lv N jobs (p.doFin r w e rest) := by
  have hr : r < N := h.lt_of_ws hw
  obtain ⟨b, hfin, hbj, hph⟩ := h.ph
  obtain ⟨w', hw', hp⟩ := hph r hr
  rw [hw] at hw'; cases hw'
  rw [hd] at hp
  obtain ⟨hb, hri, hwr, hrest, hur⟩ := hp.of_finish
  subst hrest hb
  have hdn : ∀ i, (p.doFin r w e []).dn i = if i = r then [] else p.dn i :=
    fun i => getElem?_set_getD p.down r i [] [] (by rw [h.ld]; exact hr)
  exact
  { h with
    lws := List.length_set.trans h.lws
    ld := List.length_set.trans h.ld
    D1 := by
      intro j' i' hm
      obtain ⟨hi', hor⟩ := h.D1 j' i' hm
      refine ⟨hi', ?_⟩
      rw [hdn]
      by_cases hir : i' = r
      · subst hir
        rw [hd] at hor
        exact Or.inr (hor.resolve_left (by simp))
      · rw [if_neg hir]; exact hor
    D2 := by
      intro i' j' hd'
      rw [hdn] at hd'
      by_cases hir : i' = r
      · rw [if_pos hir] at hd'; cases hd'
      · rw [if_neg hir] at hd'; exact h.D2 i' j' hd'
    ph := by
      refine ⟨true, hfin, hbj, ?_⟩
      intro i hi
      by_cases hir : i = r
      · subst hir
        refine ⟨{ w with st := .finish, exited := e }, List.getElem?_set_self (h.lws ▸ hi), ?_⟩
        rw [hdn, if_pos rfl]
        show Phase _ true (i ∈ p.idle) (p.wt i) [] (p.upc i) _
        rw [hwr, hur]
        exact Phase.mk_finished hri rfl he
      · exact Phase.transfer (hph i hi) (List.getElem?_set_ne (Ne.symm hir)) Iff.rfl rfl
          (by rw [hdn, if_neg hir]) rfl }

theorem exit (h : Inv lv N jobs p) {r : Nat} {w : Worker} (hw : p.ws[r]? = some w) (hst : w.st = .finish) :
    Inv lv N jobs (p.exit r w) := by
  obtain ⟨b, hfin, hbj, hph⟩ := h.ph
  exact
  { h with
    lws := List.length_set.trans h.lws
    ph := by
      refine ⟨b, hfin, hbj, ?_⟩
      intro i hi
      by_cases hir : i = r
      · subst hir
        obtain ⟨wi, hwi, hpi⟩ := hph i hi
        rw [hw] at hwi; cases hwi
        exact ⟨{ w with exited := true }, List.getElem?_set_self (h.lws ▸ hi), hpi.exit hst⟩
      · exact Phase.transfer (hph i hi) (List.getElem?_set_ne (Ne.symm hir)) Iff.rfl rfl rfl rfl }

theorem workerTest (hnd : jobs.Nodup) (h : Inv lv N jobs p) {p' : Pool} {r : Nat} {e b : Bool}
    (he : lv r → e = true) (hs : p.workerTest r e b = some p') : Inv lv N jobs p' := by
  obtain ⟨w, hw, _, _, hc⟩ := workerTest_cases hs
  rcases hc with ⟨_, rfl⟩ | ⟨j, rest, hd, rfl⟩ | ⟨rest, hd, rfl⟩
  · exact h
  · exact h.doWork hnd hw hd
  · exact h.doFin hw he hd

theorem can_receive (h : Inv lv N jobs p) {i : Nat} (hi : i < N) (e : Bool) (hd : p.dn i ≠ []) :
    ∃ p', p.workerTest i e true = some p' := by
  obtain ⟨b, _, _, hph⟩ := h.ph
  obtain ⟨w, hw, hp⟩ := hph i hi
  obtain ⟨hst, hex⟩ := hp.pending_of_msg hd
  match hm : p.dn i with
  | [] => exact absurd hm hd
  | Msg.work j :: rest => exact ⟨p.doWork i w j rest, by simp [Pool.workerTest, hw, hst, hex, hm]⟩
  | Msg.finish :: rest => exact ⟨p.doFin i w e rest, by simp [Pool.workerTest, hw, hst, hex, hm]⟩

theorem not_waited (h : Inv lv N jobs p) (hdn : ∀ i, i < N → p.dn i = [])
    (hc : ¬ ∃ k, k < N ∧ p.wt k = true ∧ 0 < p.upc k) (i : Nat) (hi : i < N) : p.wt i = false := by
  obtain ⟨b, _, _, hph⟩ := h.ph
  obtain ⟨w, _, hp⟩ := hph i hi
  cases hw : p.wt i
  · rfl
  · exact absurd ⟨i, hi, hw, hp.token_of_waited (hdn i hi) hw⟩ hc

theorem gone_of_quiet (h : Inv lv N jobs p)
    (hph : ∀ i, i < N → ∃ w, p.ws[i]? = some w ∧ Phase (lv i) true (i ∈ p.idle) (p.wt i) (p.dn i) (p.upc i) w)
    (hdn : ∀ i, i < N → p.dn i = []) {i : Nat} {w : Worker} (hw : p.ws[i]? = some w) (hl : lv i) :
    w.exited = true := by
  obtain ⟨w', hw', hp⟩ := hph i (h.lt_of_ws hw)
  rw [hw] at hw'; cases hw'
  exact (hp.finished_of_quiet (hdn i (h.lt_of_ws hw))).2 hl

theorem at_most_once (h : Inv lv N jobs p) : (p.log.map (·.1)).Nodup ∧ ∀ x ∈ p.log, x.1 ∈ jobs ∧ x.2 < N := by
  refine ⟨h.L2, ?_⟩
  intro x hx
  have hd := h.L1 x hx
  refine ⟨?_, (h.D1 x.1 x.2 hd).1⟩
  rw [← h.K]
  exact List.mem_append_left _ (List.mem_reverse.2 (List.mem_map_of_mem hd))

theorem dmap_truth (h : Inv lv N jobs p) (hnd : jobs.Nodup) : ∀ x ∈ p.log, dmapGet p.dmap x.1 = some x.2 :=
  fun x hx => dmapGet_of_mem _ (h.keys_nd hnd) x.1 x.2 (h.L1 x hx)

theorem final (h : Inv lv N jobs p) (hN : 0 < N) (hf : ∀ w ∈ p.ws, w.exited = true) :
    (∀ j ∈ jobs, j ∈ p.log.map (·.1)) ∧ (∀ j, (dmapGet p.dmap j).isSome ↔ j ∈ jobs) ∧
    (∀ d ∈ p.down, d = []) ∧ (∀ u ∈ p.up, u = 0) ∧ (∀ w ∈ p.wait, w = false) := by
  obtain ⟨b, hfin, hbj, hph⟩ := h.ph
  -- every worker is in phase E
  have hall : ∀ i, i < N → b = true ∧ p.wt i = false ∧ p.dn i = [] ∧ p.upc i = 0 := by
    intro i hi
    obtain ⟨w, hw, hp⟩ := hph i hi
    exact hp.of_exited (hf w (List.mem_iff_getElem?.2 ⟨i, hw⟩))
  have hK := h.K
  rw [hbj (hall 0 hN).1, List.append_nil] at hK
  refine ⟨?_, ?_, ?_, ?_, ?_⟩
  · intro j hjm
    rw [← hK] at hjm
    obtain ⟨x, hx, rfl⟩ := List.mem_map.1 (List.mem_reverse.1 hjm)
    obtain ⟨hi, hor⟩ := h.D1 x.1 x.2 hx
    rw [(hall x.2 hi).2.2.1] at hor
    exact List.mem_map.2 ⟨x, hor.resolve_left (by simp), rfl⟩
  · intro j
    rw [dmapGet_isSome, ← hK]
    exact List.mem_reverse.symm
  · exact forall_mem_of_getD fun i hi => (hall i (h.ld ▸ hi)).2.2.1
  · exact forall_mem_of_getD fun i hi => (hall i (h.lu ▸ hi)).2.2.2
  · exact forall_mem_of_getD fun i hi => (hall i (h.lw ▸ hi)).2.1

theorem once_at_exit (h : Inv lv N jobs p) (hN : 0 < N) (hf : ∀ w ∈ p.ws, w.exited = true) :
    ∀ j ∈ jobs, (p.log.filter (·.1 = j)).length = 1 := by
  intro j hj
  rw [length_filter_job, List.Nodup.count h.at_most_once.1, if_pos ((h.final hN hf).1 j hj)]

end Inv

/-- Every hand-out and every reception moves a job, or the shutdown of a worker, to a strictly cheaper form.
Weights: a job still on the stack 3; a `work` message in flight 2; a completion token in flight 1 (received: 0);
a `Finish` not yet sent 1; a worker that has not yet received `Finish` 1; a worker that has not left the loop 1. -/
def measure (p : Pool) : Nat :=
  3 * p.jobs.length + wsum wD p.down + wsum id p.up + wsum wW p.ws + wsum wF p.fin

theorem measure_assign (p : Pool) (j w : Nat) (js ws : List Nat) (h1 : p.jobs = j :: js) :
    measure (p.assign j w js ws) < measure p := by
  by_cases hw : w < p.down.length
  · have := wsum_set wD p.down w (p.down.getD w [] ++ [Msg.work j]) [] hw
    simp [wD, workCount_append, workCount] at this
    simp [measure, Pool.assign, h1]
    omega
  · simp [measure, Pool.assign, h1, List.set_eq_of_length_le (Nat.le_of_not_lt hw)]

theorem measure_order_le (p : Pool) : measure p.order ≤ measure p :=
  order_induction (C := fun q => measure q ≤ measure p)
    (fun q j w js ws hj _ h => Nat.le_trans (Nat.le_of_lt (measure_assign q j w js ws hj)) h) p (Nat.le_refl _)

theorem measure_order_lt (p : Pool) {j w : Nat} {js ws : List Nat} (hj : p.jobs = j :: js) (hi : p.idle = w :: ws) :
    measure p.order < measure p := by
  rw [order_cons p j w js ws hj hi]
  exact Nat.lt_of_le_of_lt (measure_order_le _) (measure_assign p j w js ws hj)

theorem measure_finishPhase_le (n : Nat) (p : Pool) : measure (p.finishPhase n) ≤ measure p := by
  unfold Pool.finishPhase
  split
  · simp [measure, wsum_finDown, wsum_replicate, wF]
  · exact Nat.le_refl _

theorem measure_collect (p : Pool) (k : Nat) (huk : 0 < p.upc k) : measure (p.collect k) < measure p := by
  have hk : k < p.up.length := by
    refine Nat.lt_of_not_le fun hle => ?_
    -- beyond the end of the list the counter reads 0
    rw [upc, List.getElem?_eq_none hle] at huk
    cases huk
  have h1 := wsum_set id p.up k (p.upc k - 1) 0 hk
  simp [upc] at h1 huk
  simp [measure, Pool.collect, upc]
  omega

theorem down_of_dn {p : Pool} {r : Nat} {m : Msg} {rest : List Msg} (hd : p.dn r = m :: rest) :
    p.down[r]? = some (m :: rest) := by
  cases h : p.down[r]? <;> simp_all [dn]

theorem measure_doWork (p : Pool) (r : Nat) (w : Worker) (hw : p.ws[r]? = some w) (hp : w.st = .pending)
    (j : Nat) (rest : List Msg) (hd : p.dn r = Msg.work j :: rest) : measure (p.doWork r w j rest) < measure p := by
  have h1 := wsum_set_of_getElem? wD p.down r _ rest (down_of_dn hd)
  have h2 := wsum_set_of_getElem? wW p.ws r w { w with st := .pending, cur := some j } hw
  simp [wD, workCount] at h1
  simp [wW, hp] at h2
  by_cases hu : r < p.up.length
  · have h3 := wsum_set id p.up r (p.upc r + 1) 0 hu
    simp [upc] at h3
    simp [measure, Pool.doWork, upc] at h1 h2 h3 ⊢
    omega
  · simp [measure, Pool.doWork, List.set_eq_of_length_le (Nat.le_of_not_lt hu)] at h1 h2 ⊢
    omega

theorem measure_doFin (p : Pool) (r : Nat) (w : Worker) (hw : p.ws[r]? = some w) (hp : w.st = .pending)
    (he : w.exited = false) (e : Bool) (rest : List Msg) (hd : p.dn r = Msg.finish :: rest) :
    measure (p.doFin r w e rest) < measure p := by
  have h1 := wsum_set_of_getElem? wD p.down r _ rest (down_of_dn hd)
  have h2 := wsum_set_of_getElem? wW p.ws r w { w with st := .finish, exited := e } hw
  simp [wD, workCount] at h1
  simp [wW, hp, he] at h2
  simp [measure, Pool.doFin] at h1 h2 ⊢
  split at h2 <;> omega

theorem measure_exit (p : Pool) (r : Nat) (w : Worker) (hw : p.ws[r]? = some w) :
    measure (p.exit r w) ≤ measure p ∧ (w.exited = false → measure (p.exit r w) < measure p) := by
  have h2 := wsum_set_of_getElem? wW p.ws r w { w with exited := true } hw
  simp [wW] at h2
  simp [measure, Pool.exit]
  constructor
  · omega
  · intro he; simp [he] at h2; omega

theorem measure_workerTest {p p' : Pool} {r : Nat} {e b : Bool} (hs : p.workerTest r e b = some p') :
    measure p' ≤ measure p ∧ (b = true → measure p' < measure p) := by
  obtain ⟨w, hw, he, hp, hc⟩ := workerTest_cases hs
  rcases hc with ⟨hb, rfl⟩ | ⟨j, rest, hd, rfl⟩ | ⟨rest, hd, rfl⟩
  · exact ⟨Nat.le_refl _, fun h => by simp [hb] at h⟩
  · have := measure_doWork p r w hw hp j rest hd
    exact ⟨Nat.le_of_lt this, fun _ => this⟩
  · have := measure_doFin p r w hw hp he e rest hd
    exact ⟨Nat.le_of_lt this, fun _ => this⟩

theorem Inv.quiet_progress {lv : Nat → Prop} {N : Nat} {jobs : List Nat} {p : Pool} (h : Inv lv N jobs p)
    (hN : 0 < N) (hwt : ∀ i, i < N → p.wt i = false) (hfin : p.fin = List.replicate N false) :
    measure (p.finishPhase N) < measure p ∨
    (p.finishPhase N = p ∧ measure p.order < measure p) := by
  have hlen := h.idle_full hwt
  match hj : p.jobs, hi : p.idle with
  | [], _ =>
    refine Or.inl ?_
    rw [Pool.finishPhase, if_pos ⟨hj, by rw [hlen]; exact Nat.le_refl _⟩]
    simp [measure, wsum_finDown, wsum_replicate, wF, hfin]
    exact hN
  | j :: js, [] => rw [hi] at hlen; exact absurd hlen (Nat.ne_of_lt hN)
  | j :: js, w :: ws =>
    refine Or.inr ⟨?_, measure_order_lt p hj hi⟩
    rw [Pool.finishPhase, if_neg]; simp [hj]

end Pool
end Pomerol.Spec

/-! Both models are transition systems whose step is a pair `(rank, sees)`; what follows holds for every such system. -/

namespace Pomerol.Spec.Sched
variable {σ : Type} {step : σ → Nat → Bool → Option σ}

variable (step) in
inductive Reach : σ → σ → Prop
  | refl (s : σ) : Reach s s
  | head {s s1 s' : σ} (r : Nat) (b : Bool) : step s r b = some s1 → Reach s1 s' → Reach s s'

theorem Reach.single {s s' : σ} {r : Nat} {b : Bool} (h : step s r b = some s') : Reach step s s' :=
  .head r b h (.refl s')

theorem Reach.trans {s s1 s2 : σ} (h1 : Reach step s s1) (h2 : Reach step s1 s2) : Reach step s s2 := by
  induction h1 with
  | refl => exact h2
  | head r b hs _ ih => exact .head r b hs (ih h2)

theorem reach_iff_run (run : σ → List (Nat × Bool) → Option σ) (h0 : ∀ s, run s [] = some s)
    (h1 : ∀ s r b rest, run s ((r, b) :: rest) = (step s r b).bind fun s1 => run s1 rest) (s s' : σ) :
    Reach step s s' ↔ ∃ sched, run s sched = some s' := by
  constructor
  · intro h
    induction h with
    | refl s => exact ⟨[], h0 s⟩
    | head r b hs _ ih =>
      obtain ⟨sched, h⟩ := ih
      exact ⟨(r, b) :: sched, by rw [h1, hs]; exact h⟩
  · rintro ⟨sched, h⟩
    induction sched generalizing s with
    | nil => rw [h0] at h; cases h; exact .refl _
    | cons x rest ih =>
      rw [h1] at h
      obtain ⟨s1, hs1, h⟩ := Option.bind_eq_some_iff.1 h
      exact .head x.1 x.2 hs1 (ih s1 h)

theorem Reach.inv {I : σ → Prop} (hI : ∀ s s' r b, I s → step s r b = some s' → I s') {s s' : σ}
    (h : Reach step s s') (hs : I s) : I s' := by
  induction h with
  | refl => exact hs
  | head r b hst _ ih => exact ih (hI _ _ r b hs hst)

/-- Well-founded induction on `μ`.  `I` is an invariant, `top` singles out the states for which `progress` is stated
(in both models: the master stands at the top of its loop); every state from which such a state can be reached can be
run to a `done` state. -/
theorem exists_run_done {run : σ → List (Nat × Bool) → Option σ}
    (hrun : ∀ s s', Reach step s s' ↔ ∃ sched, run s sched = some s')
    {I top : σ → Prop} {done : σ → Bool} {μ : σ → Nat}
    (progress : ∀ s, I s → top s → done s = false →
      ∃ sched s', run s sched = some s' ∧ I s' ∧ top s' ∧ μ s' < μ s) :
    ∀ s1, I s1 → top s1 → ∀ s, Reach step s s1 → ∃ sched s', run s sched = some s' ∧ done s' = true := by
  intro s1
  induction h : μ s1 using Nat.strongRecOn generalizing s1 with
  | _ n ih =>
    intro hi1 ht1 s h1
    cases hd : done s1
    · obtain ⟨sched, s2, hr, hi, ht, hlt⟩ := progress s1 hi1 ht1 hd
      exact ih (μ s2) (h ▸ hlt) s2 rfl hi ht s (h1.trans ((hrun _ _).2 ⟨sched, hr⟩))
    · obtain ⟨sched, hr⟩ := (hrun _ _).1 h1
      exact ⟨sched, s1, hr, hd⟩

end Pomerol.Spec.Sched
