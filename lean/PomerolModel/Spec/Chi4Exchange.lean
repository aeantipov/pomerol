/-
  Second exchange symmetry of the two-particle Green's function (C13):

      χ_{ijlk}(ω₁,ω₂;ω₁+ω₂−ω₃) = −χ_{ijkl}(ω₁,ω₂;ω₃)

  i.e. exchanging the third operator with the fourth one (which sits at time 0 and carries the
  frequency fixed by energy conservation) flips the sign.  Unlike the first exchange symmetry this
  is not a relabelling of the six time orderings: it needs the cyclicity of the trace together
  with the fermionic antiperiodicity, which at the level of the Lehmann form is the cyclic identity of
  the library's multi-term (`multiTerm_rotate`, all resonance classes): rotating the closed world line by
  one step flips the sign.  With it every ordering is rotated until `c_i` stands first
  (`chiLehmann_first`); there the exchange is a relabelling of the orderings.
-/
import PomerolModel.Spec.Chi4
import PomerolModel.Spec.SumLemmas

namespace Pomerol.Spec
open Matrix Complex

/-- cyclic identity, algebraic core.  `a₄ = −(a₁+a₂+a₃)`; in the generic class no relation between
the weights is needed, on the resonance `a₁+a₂ = 0` one needs `w₃ = w₁`, on the resonance
`a₂+a₃ = 0` one needs `w₄ = w₂`. -/
theorem mtCore_rotate (β a1 a2 a3 w1 w2 w3 w4 : ℂ)
    (h1 : a1 ≠ 0) (h2 : a2 ≠ 0) (h3 : a3 ≠ 0) (hs : a1 + a2 + a3 ≠ 0)
    (hw13 : a1 + a2 = 0 → w3 = w1) (hw24 : a2 + a3 = 0 → w4 = w2) :
    mtCore β a2 a3 (-(a1 + a2 + a3)) w2 w3 w4 w1 = - mtCore β a1 a2 a3 w1 w2 w3 w4 := by
  have e1 : a3 + -(a1 + a2 + a3) = -(a1 + a2) := by ring
  have e2 : a2 + a3 + -(a1 + a2 + a3) = -a1 := by ring
  -- after the rotation each bracket is minus a bracket of the original: no product of cases
  have r23 : (if a2 + a3 = 0 then β * w2 else (w4 - w2) / (a2 + a3))
      = -(if a2 + a3 = 0 then -(β * w2) else (w2 - w4) / (a2 + a3)) := by
    rw [neg_ite, neg_neg, neg_div', neg_sub]
  -- and of the brackets the rational identity only needs `c · bracket = Δ`
  have hB12 : (a1 + a2) * (if a1 + a2 = 0 then β * w1 else (w3 - w1) / (a1 + a2)) = w3 - w1 :=
    mul_bracket fun hc => by rw [hw13 hc, sub_self]
  have hB23 : (a2 + a3) * (if a2 + a3 = 0 then -(β * w2) else (w2 - w4) / (a2 + a3)) = w2 - w4 :=
    mul_bracket fun hc => by rw [hw24 hc, sub_self]
  unfold mtCore
  rw [e1, e2, r23, neg_bracket (x := β * w1) fun hc => by rw [hw13 hc]]
  generalize (if a1 + a2 = 0 then β * w1 else (w3 - w1) / (a1 + a2)) = B12 at hB12 ⊢
  generalize (if a2 + a3 = 0 then -(β * w2) else (w2 - w4) / (a2 + a3)) = B23 at hB23 ⊢
  field_simp
  linear_combination (a2 + a3) * hB12 + (a1 + a2) * hB23

theorem exp_fourth {β : ℝ} {z1 z2 z3 z4 : ℂ} (hz : z1 + z2 + z3 + z4 = 0)
    (h1 : Complex.exp ((β:ℂ) * z1) = -1) (h2 : Complex.exp ((β:ℂ) * z2) = -1)
    (h3 : Complex.exp ((β:ℂ) * z3) = -1) : Complex.exp ((β:ℂ) * z4) = -1 := by
  have h4 : z4 = -(z1 + z2 + z3) := by linear_combination hz
  rw [h4, mul_neg, Complex.exp_neg, exp_add3_eq_neg_one h1 h2 h3]
  norm_num

/-- cyclic identity of the multi-term (all four resonance classes).  Along a closed world line
n₁→n₂→n₃→n₄→n₁ the level differences and the frequencies add up to zero; rotating the world line
by one step (the operator that was first becomes last) flips the sign (fermionic
antiperiodicity). -/
theorem multiTerm_rotate (β : ℝ) (z1 z2 z3 z4 : ℂ) (P1 P2 P3 P4 : ℝ) (w1 w2 w3 w4 : ℝ)
    (hz : z1 + z2 + z3 + z4 = 0) (hP : P1 + P2 + P3 + P4 = 0)
    (h1 : Complex.exp ((β:ℂ) * z1) = -1) (h2 : Complex.exp ((β:ℂ) * z2) = -1)
    (h3 : Complex.exp ((β:ℂ) * z3) = -1)
    (hw2 : w2 = w1 * Real.exp (-β * P1)) (hw3 : w3 = w2 * Real.exp (-β * P2))
    (hw4 : w4 = w3 * Real.exp (-β * P3)) :
    multiTerm β z2 z3 z4 P2 P3 P4 w2 w3 w4 w1 = - multiTerm β z1 z2 z3 P1 P2 P3 w1 w2 w3 w4 := by
  have hP' : (P1:ℂ) + P2 + P3 + P4 = 0 := by exact_mod_cast hP
  have a4 : z4 - (P4:ℂ) = -((z1 - (P1:ℂ)) + (z2 - (P2:ℂ)) + (z3 - (P3:ℂ))) := by
    linear_combination hz - hP'
  have ns : (z1 - (P1:ℂ)) + (z2 - (P2:ℂ)) + (z3 - (P3:ℂ)) ≠ 0 := by
    have h := sub_ofReal_ne_zero_of_exp_eq_neg_one (exp_fourth hz h1 h2 h3) P4
    rw [a4] at h
    exact neg_ne_zero.mp h
  have e1 := mul_exp_step h1 hw2
  have e2 := mul_exp_step h2 hw3
  have e3 := mul_exp_step h3 hw4
  rw [multiTerm_eq_mtCore, multiTerm_eq_mtCore, a4]
  exact mtCore_rotate _ _ _ _ _ _ _ _ (sub_ofReal_ne_zero_of_exp_eq_neg_one h1 P1)
    (sub_ofReal_ne_zero_of_exp_eq_neg_one h2 P2) (sub_ofReal_ne_zero_of_exp_eq_neg_one h3 P3) ns
    (w_eq_of_resonant e1 e2) (w_eq_of_resonant e2 e3)

variable {ι : Type} [Fintype ι] [DecidableEq ι]

set_option linter.unusedSectionVars false

theorem sum4_rotate (g : ι → ι → ι → ι → ℂ) :
    ∑ a, ∑ b, ∑ c, ∑ e, g a b c e = ∑ b, ∑ c, ∑ e, ∑ a, g a b c e :=
  (Finset.sum_comm_cycle (f := fun b c a => ∑ e, g a b c e)).symm.trans
    (Finset.sum_congr rfl fun _ _ => Finset.sum_congr rfl fun _ _ => Finset.sum_comm)

theorem sum4_congr {f g : ι → ι → ι → ι → ℂ} (h : ∀ a b c e, f a b c e = g a b c e) :
    ∑ a, ∑ b, ∑ c, ∑ e, f a b c e = ∑ a, ∑ b, ∑ c, ∑ e, g a b c e :=
  Finset.sum_congr rfl fun a _ => Finset.sum_congr rfl fun b _ =>
    Finset.sum_congr rfl fun c _ => Finset.sum_congr rfl fun e _ => h a b c e

theorem sum4_add_distrib (f g : ι → ι → ι → ι → ℂ) :
    ∑ a, ∑ b, ∑ c, ∑ e, (f a b c e + g a b c e)
      = ∑ a, ∑ b, ∑ c, ∑ e, f a b c e + ∑ a, ∑ b, ∑ c, ∑ e, g a b c e := by
  simp only [Finset.sum_add_distrib]

/-- cyclic identity of one ordering: moving the first operator (with its frequency) to the last
place flips the sign; `za + zb + zc + zd = 0`, `zd` being the frequency carried by the operator at
time 0. -/
theorem orderedLehmann_rotate (d : EigenData ι) (A B Cc D : Matrix ι ι ℂ) (za zb zc zd : ℂ)
    (hz : za + zb + zc + zd = 0)
    (ha : Complex.exp ((d.β:ℂ) * za) = -1) (hb : Complex.exp ((d.β:ℂ) * zb) = -1)
    (hc : Complex.exp ((d.β:ℂ) * zc) = -1) :
    d.orderedLehmann B Cc D A zb zc zd = - d.orderedLehmann A B Cc D za zb zc := by
  unfold EigenData.orderedLehmann
  rw [sum4_rotate (fun n1 n2 n3 n4 => A n1 n2 * B n2 n3 * Cc n3 n4 * D n4 n1 *
    multiTerm d.β za zb zc (d.E n2 - d.E n1) (d.E n3 - d.E n2) (d.E n4 - d.E n3)
      (d.w n1) (d.w n2) (d.w n3) (d.w n4)), sum4_eq_sum_prod, sum4_eq_sum_prod,
    ← Finset.sum_neg_distrib]
  refine Finset.sum_congr rfl fun ⟨n2, n3, n4, n1⟩ _ => ?_
  rw [multiTerm_rotate d.β za zb zc zd (d.E n2 - d.E n1) (d.E n3 - d.E n2) (d.E n4 - d.E n3)
    (d.E n1 - d.E n4) (d.w n1) (d.w n2) (d.w n3) (d.w n4) hz (by ring) ha hb hc
    (w_ratio' d n1 n2) (w_ratio' d n2 n3) (w_ratio' d n3 n4)]
  ring

/-- the signed sum over the orderings in which `A` (frequency `z0`) stands first:
`Σ_σ sgn σ · T(A, σ(B1,B2,X))`, `y` being the frequency of `X` -/
noncomputable def EigenData.chiFirst (d : EigenData ι) (A B1 B2 X : Matrix ι ι ℂ)
    (z0 z1 z2 y : ℂ) : ℂ :=
  d.orderedLehmann A B1 B2 X z0 z1 z2
  - d.orderedLehmann A B2 B1 X z0 z2 z1
  + d.orderedLehmann A B2 X B1 z0 z2 y
  + d.orderedLehmann A X B1 B2 z0 y z1
  - d.orderedLehmann A B1 X B2 z0 z1 y
  - d.orderedLehmann A X B2 B1 z0 y z2

/-- χ with every ordering rotated (cyclicity of the trace + antiperiodicity) so that the first
operator stands first -/
theorem chiLehmann_first (d : EigenData ι) (O : Fin 3 → Matrix ι ι ℂ) (X : Matrix ι ι ℂ)
    (z : Fin 3 → ℂ) (hz : ∀ k, Complex.exp ((d.β:ℂ) * z k) = -1) :
    d.chiLehmann O X z
      = d.chiFirst (O 0) (O 1) (O 2) X (z 0) (z 1) (z 2) (-(z 0 + z 1 + z 2)) := by
  have hy : Complex.exp ((d.β:ℂ) * (-(z 0 + z 1 + z 2))) = -1 :=
    exp_fourth (z1 := z 0) (z2 := z 1) (z3 := z 2) (by ring) (hz 0) (hz 1) (hz 2)
  rw [chiLehmann_expand]
  unfold EigenData.chiFirst
  generalize hyy : -(z 0 + z 1 + z 2) = y at hy
  have hs : z 0 + z 1 + z 2 + y = 0 := by rw [← hyy]; ring
  -- T(0,2,X,1) = −T(1,0,2,X)
  have r1 := orderedLehmann_rotate d (O 1) (O 0) (O 2) X (z 1) (z 0) (z 2) y
    (by linear_combination hs) (hz 1) (hz 0) (hz 2)
  -- T(0,X,1,2) = −T(2,0,X,1) = T(1,2,0,X)
  have r2a := orderedLehmann_rotate d (O 1) (O 2) (O 0) X (z 1) (z 2) (z 0) y
    (by linear_combination hs) (hz 1) (hz 2) (hz 0)
  have r2b := orderedLehmann_rotate d (O 2) (O 0) X (O 1) (z 2) (z 0) y (z 1)
    (by linear_combination hs) (hz 2) (hz 0) hy
  -- T(0,1,X,2) = −T(2,0,1,X)
  have r3 := orderedLehmann_rotate d (O 2) (O 0) (O 1) X (z 2) (z 0) (z 1) y
    (by linear_combination hs) (hz 2) (hz 0) (hz 1)
  -- T(0,X,2,1) = −T(1,0,X,2) = T(2,1,0,X)
  have r4a := orderedLehmann_rotate d (O 2) (O 1) (O 0) X (z 2) (z 1) (z 0) y
    (by linear_combination hs) (hz 2) (hz 1) (hz 0)
  have r4b := orderedLehmann_rotate d (O 1) (O 0) X (O 2) (z 1) (z 0) y (z 2)
    (by linear_combination hs) (hz 1) (hz 0) hy
  linear_combination -r1 + r2a - r2b + r3 - r4a + r4b

theorem exp_swapped (d : EigenData ι) (z : Fin 3 → ℂ)
    (hz : ∀ k, Complex.exp ((d.β:ℂ) * z k) = -1) (k : Fin 3) :
    Complex.exp ((d.β:ℂ) * (![z 0, z 1, -(z 0 + z 1 + z 2)] : Fin 3 → ℂ) k) = -1 := by
  fin_cases k
  · exact hz 0
  · exact hz 1
  · exact exp_fourth (z1 := z 0) (z2 := z 1) (z3 := z 2) (z4 := -(z 0 + z 1 + z 2)) (by ring)
      (hz 0) (hz 1) (hz 2)

/-- second exchange symmetry (C13), Lehmann form: exchanging the third operator `c†_k` with the
fourth one `c†_l` (at time 0), the third frequency becoming the one of the fourth operator
`z₃ = −(z₀+z₁+z₂)` (i.e. `−iω₄`, `ω₄ = ω₁+ω₂−ω₃`), flips the sign:
χ_{ijlk}(ω₁,ω₂;ω₁+ω₂−ω₃) = −χ_{ijkl}(ω₁,ω₂;ω₃).

Both sides are brought to the form `chiFirst` with `O 0` first (`chiLehmann_first`); there the
exchange is a relabelling of the six orderings. -/
theorem chiLehmann_swap23 (d : EigenData ι) (O : Fin 3 → Matrix ι ι ℂ) (X : Matrix ι ι ℂ)
    (z : Fin 3 → ℂ) (hz : ∀ k, Complex.exp ((d.β:ℂ) * z k) = -1) :
    d.chiLehmann ![O 0, O 1, X] (O 2) ![z 0, z 1, -(z 0 + z 1 + z 2)] = - d.chiLehmann O X z := by
  rw [chiLehmann_first d _ _ _ (exp_swapped d z hz), chiLehmann_first d O X z hz]
  simp only [Matrix.cons_val_zero, Matrix.cons_val_one, Matrix.cons_val_two, Matrix.head_cons,
    Matrix.tail_cons]
  rw [show -(z 0 + z 1 + -(z 0 + z 1 + z 2)) = z 2 by ring]
  unfold EigenData.chiFirst
  ring

/-- second exchange symmetry (C13), definition level: the signed sum over the six time-ordered
simplex integrals is antisymmetric under the exchange of the third and the fourth operator,
χ_{ijlk}(ω₁,ω₂;ω₁+ω₂−ω₃) = −χ_{ijkl}(ω₁,ω₂;ω₃), at all frequencies with `e^{βz} = −1` (in
particular at all fermionic Matsubara frequencies) -/
theorem chiDef_swap23 (d : EigenData ι) (O : Fin 3 → Matrix ι ι ℂ) (X : Matrix ι ι ℂ)
    (z : Fin 3 → ℂ) (hz : ∀ k, Complex.exp ((d.β:ℂ) * z k) = -1) :
    d.chiDef ![O 0, O 1, X] (O 2) ![z 0, z 1, -(z 0 + z 1 + z 2)] = - d.chiDef O X z := by
  rw [chi_lehmann d _ _ _ (exp_swapped d z hz), chi_lehmann d O X z hz]
  exact chiLehmann_swap23 d O X z hz

/-- at Matsubara frequencies: χ_{ijlk}(ω₁,ω₂;ω₁+ω₂−ω₃) = −χ_{ijkl}(ω₁,ω₂;ω₃), where
`ω_{k₁}+ω_{k₂}−ω_{k₃} = ω_{k₁+k₂−k₃}` -/
theorem chiDef_swap23_matsubara (d : EigenData ι) (O : Fin 3 → Matrix ι ι ℂ) (X : Matrix ι ι ℂ)
    (k1 k2 k3 : ℤ) :
    d.chiDef ![O 0, O 1, X] (O 2)
        ![I * (d.ω k1 : ℂ), I * (d.ω k2 : ℂ), -(I * (d.ω (k1 + k2 - k3) : ℂ))]
      = - d.chiDef O X ![I * (d.ω k1 : ℂ), I * (d.ω k2 : ℂ), -(I * (d.ω k3 : ℂ))] := by
  have h := chiDef_swap23 d O X _ (matsubara_exp d k1 k2 k3)
  have hω : -(I * (d.ω (k1 + k2 - k3) : ℂ))
      = -(I * (d.ω k1 : ℂ) + I * (d.ω k2 : ℂ) + -(I * (d.ω k3 : ℂ))) := by
    rw [← omega_add_sub]
    push_cast
    ring
  simp only [Matrix.cons_val_zero, Matrix.cons_val_one, Matrix.cons_val_two, Matrix.head_cons,
    Matrix.tail_cons] at h
  rw [hω]
  exact h

end Pomerol.Spec
