/-
  Consequences of the canonical anticommutation relations for number and spin operators, in an
  arbitrary representation `r : CARRep K A`.  The operators defined here (`kanamoriOp`, `ssOp`, `szszOp`)
  are those documented for the presets of `LatticePresets`; `Spec/PresetSem.lean` proves that the presets
  add them.

  SU(2) invariance rests on one notion, `SpinRaise r X up dn n`: `X` acts on the modes `up α`, `dn α` as the
  total-spin raising operator does (`[c_↑, X] = c_↓`, `[c_↓, X] = 0`, `[c†_↑, X] = 0`, `[c†_↓, X] = −c†_↑`).
  With the commutator `cm` used as a derivation, the exchange and the two-spin Kanamori operator commute
  with every such `X`; the total `S⁺` of a family of orbitals is one; and both operators are unchanged when
  the two spin components exchange their names, which turns `S⁻` into a raising operator.
-/
import PomerolModel.Spec.CAR
import PomerolModel.Generated.Presets
import Mathlib.Algebra.BigOperators.Group.Finset.Basic
import Mathlib.Algebra.BigOperators.Ring.Finset
import Mathlib.Algebra.BigOperators.GroupWithZero.Action
import Mathlib.Algebra.Field.Basic
import Mathlib.Tactic.NoncommRing
import Mathlib.Tactic.Abel
import Mathlib.Tactic.LinearCombination

set_option linter.unusedSectionVars false

namespace Pomerol.Spec.PresetSem
open Pomerol.Model Pomerol.Spec Pomerol.Gen.Presets
open Finset (range)

section Number
variable {K A : Type} [CommRing K] [Ring A] [Algebra K A]

def num (r : CARRep K A) (x : Nat) : A := r.cd x * r.c x

end Number

section SpinOperators
variable {K A : Type} [Field K] [Ring A] [Algebra K A]

/-- `c† c c† = c† (1 − c† c) = c†` when `c†² = 0` -/
theorem cd_c_cd (r : CARRep K A) (hcd : ∀ i, r.cd i * r.cd i = 0) (x : Nat) :
    r.cd x * r.c x * r.cd x = r.cd x := by
  rw [mul_assoc, eq_sub_of_add_eq ((r.ccd x x).trans (if_pos rfl)), mul_sub, mul_one, ← mul_assoc, hcd,
    zero_mul, sub_zero]

/-- `c c† c = (1 − c† c) c = c` when `c² = 0` -/
theorem c_cd_c (r : CARRep K A) (hc : ∀ i, r.c i * r.c i = 0) (x : Nat) :
    r.c x * r.cd x * r.c x = r.c x := by
  rw [eq_sub_of_add_eq ((r.ccd x x).trans (if_pos rfl)), sub_mul, one_mul, mul_assoc, hc, mul_zero,
    sub_zero]

theorem num_sq (r : CARRep K A) (hcd : ∀ i, r.cd i * r.cd i = 0) (x : Nat) :
    num r x * num r x = num r x := by
  unfold num
  rw [← mul_assoc, cd_c_cd r hcd]

/-- `S⁺_x = c†_{x↑} c_{x↓}`, `S⁻_x = c†_{x↓} c_{x↑}` for a pair (index of spin up, index of spin down) -/
def sPlus (r : CARRep K A) (u d : Nat) : A := r.cd u * r.c d
def sMinus (r : CARRep K A) (u d : Nat) : A := r.cd d * r.c u

/-- `S^z = ½ (n_↑ − n_↓)` for a pair (index of spin up, index of spin down) -/
def sZ (r : CARRep K A) (u d : Nat) : A := (2 : K)⁻¹ • (num r u - num r d)

/-- spin-flip `c†_{ασ} c†_{α'σ'} c_{α'σ} c_{ασ'}` -/
def spinflipOp (r : CARRep K A) (idx : Nat → Nat → Nat) (α β σ σ' : Nat) : A :=
  r.cd (idx α σ) * r.cd (idx β σ') * r.c (idx β σ) * r.c (idx α σ')

/-- pair hopping `c†_{ασ} c†_{ασ'} c_{α'σ} c_{α'σ'}` -/
def pairhopOp (r : CARRep K A) (idx : Nat → Nat → Nat) (α β σ σ' : Nat) : A :=
  r.cd (idx α σ) * r.cd (idx α σ') * r.c (idx β σ) * r.c (idx β σ')

/-- The operator documented for `addCoulombP` (`idx α σ` = single-particle index of orbital `α`, spin
`σ` of the site): `U Σ_{α,σ>σ'} n_{ασ} n_{ασ'} + U' Σ_{α≠α',σ>σ'} n_{ασ} n_{α'σ'}
+ (U'−J)/2 Σ_{α≠α',σ} n_{ασ} n_{α'σ}
− J Σ_{α≠α',σ>σ'} (c†_{ασ} c†_{α'σ'} c_{α'σ} c_{ασ'} + c†_{ασ} c†_{ασ'} c_{α'σ} c_{α'σ'}) + ε Σ_{α,σ} n_{ασ}`;
all sums over `α ≠ α'` run over ORDERED pairs. -/
def kanamoriOp (r : CARRep K A) (idx : Nat → Nat → Nat) (norb nspin : Nat) (U Up J lv : K) : A :=
  U • (∑ α ∈ range norb, ∑ σ ∈ range nspin, ∑ σ' ∈ range σ,
        num r (idx α σ) * num r (idx α σ')) +
  Up • (∑ α ∈ range norb, ∑ β ∈ range norb with α ≠ β, ∑ σ ∈ range nspin, ∑ σ' ∈ range σ,
        num r (idx α σ) * num r (idx β σ')) +
  ((Up - J) / 2) • (∑ α ∈ range norb, ∑ β ∈ range norb with α ≠ β, ∑ σ ∈ range nspin,
        num r (idx α σ) * num r (idx β σ)) +
  (-J) • (∑ α ∈ range norb, ∑ β ∈ range norb with α ≠ β, ∑ σ ∈ range nspin, ∑ σ' ∈ range σ,
        (spinflipOp r idx α β σ σ' + pairhopOp r idx α β σ σ')) +
  lv • (∑ α ∈ range norb, ∑ σ ∈ range nspin, num r (idx α σ))

theorem sum_spin_pairs_two (f : Nat → Nat → A) :
    ∑ σ ∈ range 2, ∑ σ' ∈ range σ, f σ σ' = f spinUp spinDown := by
  simp [Finset.sum_range_succ, spinUp, spinDown]

theorem sum_spins_two (f : Nat → A) : ∑ σ ∈ range 2, f σ = f spinUp + f spinDown := by
  simp [Finset.sum_range_succ, spinUp, spinDown, add_comm]

end SpinOperators

section Commutator
variable {K A : Type} [Field K] [Ring A] [Algebra K A]
variable (r : CARRep K A)

def cm (a b : A) : A := a * b - b * a

theorem cm_mul (a b x : A) : cm (a * b) x = a * cm b x + cm a x * b := by
  unfold cm; rw [mul_sub, sub_mul, mul_assoc, mul_assoc, mul_assoc, sub_add_sub_cancel]

theorem cm_add (a b x : A) : cm (a + b) x = cm a x + cm b x := by unfold cm; noncomm_ring
theorem cm_sub (a b x : A) : cm (a - b) x = cm a x - cm b x := by
  unfold cm; rw [sub_mul, mul_sub, sub_sub_sub_comm]
theorem cm_neg (a x : A) : cm (-a) x = - cm a x := by unfold cm; noncomm_ring
theorem cm_zero (x : A) : cm 0 x = 0 := by unfold cm; noncomm_ring
theorem cm_smul (k : K) (a x : A) : cm (k • a) x = k • cm a x := by
  simp only [cm, smul_mul_assoc, mul_smul_comm, smul_sub]
theorem cm_sum {ι : Type} (s : Finset ι) (f : ι → A) (x : A) :
    cm (∑ i ∈ s, f i) x = ∑ i ∈ s, cm (f i) x := by
  unfold cm; rw [Finset.sum_mul, Finset.mul_sum, Finset.sum_sub_distrib]
theorem cm_add_right (a x y : A) : cm a (x + y) = cm a x + cm a y := by unfold cm; noncomm_ring
theorem cm_sum_right {ι : Type} (s : Finset ι) (a : A) (f : ι → A) :
    cm a (∑ i ∈ s, f i) = ∑ i ∈ s, cm a (f i) := by
  unfold cm; rw [Finset.sum_mul, Finset.mul_sum, Finset.sum_sub_distrib]

theorem cm_hop (a : A) (u d : Nat) :
    cm a (r.cd u * r.c d) = (a * r.cd u + r.cd u * a) * r.c d - r.cd u * (a * r.c d + r.c d * a) := by
  unfold cm; noncomm_ring

theorem cm_c_hop (x u d : Nat) :
    cm (r.c x) (r.cd u * r.c d) = if x = u then r.c d else 0 := by
  simp only [cm_hop, r.ccd, r.cc, mul_zero, sub_zero, ite_mul, one_mul, zero_mul]

theorem cm_cd_hop (x u d : Nat) :
    cm (r.cd x) (r.cd u * r.c d) = if d = x then - r.cd u else 0 := by
  rw [cm_hop, r.cdcd, zero_mul, zero_sub, add_comm, r.ccd, mul_ite, mul_one, mul_zero, neg_ite,
    neg_zero]

theorem num_c_comm (x y : Nat) (h : x ≠ y) : num r x * r.c y = r.c y * num r x :=
  (sub_eq_zero.mp ((cm_c_hop r y x x).trans (if_neg h.symm))).symm

theorem num_cd_comm (x y : Nat) (h : x ≠ y) : num r x * r.cd y = r.cd y * num r x :=
  (sub_eq_zero.mp ((cm_cd_hop r y x x).trans (if_neg h))).symm

theorem num_num_comm (x y : Nat) : num r x * num r y = num r y * num r x := by
  by_cases h : x = y
  · rw [h]
  · show num r x * (r.cd y * r.c y) = (r.cd y * r.c y) * num r x
    rw [← mul_assoc, num_cd_comm r x y h, mul_assoc, num_c_comm r x y h, ← mul_assoc]

end Commutator

section SU2
variable {K A : Type} [Field K] [Ring A] [Algebra K A]
variable (r : CARRep K A)

structure SpinRaise (X : A) (up dn : Nat → Nat) (n : Nat) : Prop where
  c_up : ∀ α < n, cm (r.c (up α)) X = r.c (dn α)
  c_dn : ∀ α < n, cm (r.c (dn α)) X = 0
  cd_up : ∀ α < n, cm (r.cd (up α)) X = 0
  cd_dn : ∀ α < n, cm (r.cd (dn α)) X = - r.cd (up α)

structure ModesDistinct (up dn : Nat → Nat) (n : Nat) : Prop where
  ud : ∀ α < n, ∀ β < n, up α ≠ dn β
  uu : ∀ α < n, ∀ β < n, α ≠ β → up α ≠ up β
  dd : ∀ α < n, ∀ β < n, α ≠ β → dn α ≠ dn β

variable {r} {X : A} {up dn : Nat → Nat} {n : Nat}

theorem ModesDistinct.swap (h : ModesDistinct up dn n) : ModesDistinct dn up n :=
  ⟨fun α hα β hβ => (h.ud β hβ α hα).symm, h.dd, h.uu⟩

theorem SpinRaise.cm_nu (h : SpinRaise r X up dn n) {α : Nat} (hα : α < n) :
    cm (num r (up α)) X = sPlus r (up α) (dn α) := by
  unfold num sPlus
  simp only [cm_mul, h.c_up α hα, h.cd_up α hα, zero_mul, add_zero]

theorem SpinRaise.cm_nd (h : SpinRaise r X up dn n) {α : Nat} (hα : α < n) :
    cm (num r (dn α)) X = - sPlus r (up α) (dn α) := by
  unfold num sPlus
  simp only [cm_mul, h.c_dn α hα, h.cd_dn α hα, mul_zero, zero_add, neg_mul]

theorem SpinRaise.cm_sp (h : SpinRaise r X up dn n) {α : Nat} (hα : α < n) :
    cm (sPlus r (up α) (dn α)) X = 0 := by
  unfold sPlus
  simp only [cm_mul, h.c_dn α hα, h.cd_up α hα, zero_mul, mul_zero, add_zero]

theorem SpinRaise.cm_sm (h : SpinRaise r X up dn n) {α : Nat} (hα : α < n) :
    cm (sMinus r (up α) (dn α)) X = num r (dn α) - num r (up α) := by
  unfold sMinus num
  simp only [cm_mul, h.c_up α hα, h.cd_dn α hα, neg_mul, sub_eq_add_neg]

theorem SpinRaise.cm_sz (h2 : (2 : K) ≠ 0) (h : SpinRaise r X up dn n) {α : Nat} (hα : α < n) :
    cm (sZ r (up α) (dn α)) X = sPlus r (up α) (dn α) := by
  unfold sZ
  rw [cm_smul, cm_sub, h.cm_nu hα, h.cm_nd hα, sub_neg_eq_add, ← two_smul K, smul_smul,
    inv_mul_cancel₀ h2, one_smul]

/-- The operator documented for `addSS`: `J Σ_α [ S^z_{1α} S^z_{2α} + ½ (S⁺_{1α} S⁻_{2α} + S⁻_{1α} S⁺_{2α}) ]`
(`u1 α`, `d1 α`: indices of spin up / down of orbital `α` of the first site, `u2`, `d2`: second site). -/
def ssOp (r : CARRep K A) (u1 d1 u2 d2 : Nat → Nat) (n : Nat) (J : K) : A :=
  J • ∑ α ∈ range n,
    (sZ r (u1 α) (d1 α) * sZ r (u2 α) (d2 α) +
      (2 : K)⁻¹ • (sPlus r (u1 α) (d1 α) * sMinus r (u2 α) (d2 α) +
                   sMinus r (u1 α) (d1 α) * sPlus r (u2 α) (d2 α)))

/-- The operator documented for `addSzSz`: `J Σ_α S^z_{1α} S^z_{2α}`. -/
def szszOp (r : CARRep K A) (u1 d1 u2 d2 : Nat → Nat) (n : Nat) (J : K) : A :=
  J • ∑ α ∈ range n, sZ r (u1 α) (d1 α) * sZ r (u2 α) (d2 α)

/-- Purely from the Leibniz rule; the two sites may coincide. -/
theorem ss_commutes (h2 : (2 : K) ≠ 0) {u1 d1 u2 d2 : Nat → Nat} (h1 : SpinRaise r X u1 d1 n)
    (h2' : SpinRaise r X u2 d2 n) (J : K) : cm (ssOp r u1 d1 u2 d2 n J) X = 0 := by
  unfold ssOp
  rw [cm_smul, cm_sum, Finset.sum_eq_zero, smul_zero]
  intro α hα
  rw [Finset.mem_range] at hα
  simp only [cm_add, cm_smul, cm_mul, h1.cm_sz h2 hα, h2'.cm_sz h2 hα, h1.cm_sp hα, h2'.cm_sp hα,
    h1.cm_sm hα, h2'.cm_sm hα]
  unfold sZ
  simp only [smul_mul_assoc, mul_smul_comm, zero_mul, mul_zero, add_zero, zero_add, ← smul_add]
  rw [show (num r (u1 α) - num r (d1 α)) * sPlus r (u2 α) (d2 α) +
        sPlus r (u1 α) (d1 α) * (num r (u2 α) - num r (d2 α)) +
        (sPlus r (u1 α) (d1 α) * (num r (d2 α) - num r (u2 α)) +
          (num r (d1 α) - num r (u1 α)) * sPlus r (u2 α) (d2 α)) = 0 by noncomm_ring, smul_zero]

end SU2

section KanamoriSU2
variable {K A : Type} [Field K] [Ring A] [Algebra K A]
variable {r : CARRep K A} {X : A} {up dn : Nat → Nat} {n : Nat}

theorem offdiag_swap (n : Nat) (f : Nat → Nat → A) :
    ∑ α ∈ range n, ∑ β ∈ range n with α ≠ β, f α β =
    ∑ α ∈ range n, ∑ β ∈ range n with α ≠ β, f β α := by
  simp only [Finset.sum_filter]
  rw [Finset.sum_comm]
  refine Finset.sum_congr rfl (fun α _ => Finset.sum_congr rfl (fun β _ => ?_))
  by_cases h : α = β
  · subst h; rfl
  · rw [if_pos h, if_pos (Ne.symm h)]

theorem offdiag_congr (n : Nat) (f g : Nat → Nat → A)
    (h : ∀ α < n, ∀ β < n, α ≠ β → f α β = g α β) :
    ∑ α ∈ range n, ∑ β ∈ range n with α ≠ β, f α β =
    ∑ α ∈ range n, ∑ β ∈ range n with α ≠ β, g α β := by
  refine Finset.sum_congr rfl (fun α hα => Finset.sum_congr rfl (fun β hβ => ?_))
  rw [Finset.mem_filter, Finset.mem_range] at hβ
  exact h α (Finset.mem_range.mp hα) β hβ.1 hβ.2

theorem cm_offdiag (f g : Nat → Nat → A) (h : ∀ α < n, ∀ β < n, α ≠ β → cm (f α β) X = g α β) :
    cm (∑ α ∈ range n, ∑ β ∈ range n with α ≠ β, f α β) X =
      ∑ α ∈ range n, ∑ β ∈ range n with α ≠ β, g α β := by
  rw [cm_sum]
  simp only [cm_sum]
  exact offdiag_congr n _ _ h

/-- the Kanamori operator of a site with two spin components, written with the single-particle
indices `up α`, `dn α` of the two components of orbital `α` -/
def kanamoriUD (r : CARRep K A) (up dn : Nat → Nat) (n : Nat) (U Up J lv : K) : A :=
  U • (∑ α ∈ range n, num r (up α) * num r (dn α)) +
  Up • (∑ α ∈ range n, ∑ β ∈ range n with α ≠ β, num r (up α) * num r (dn β)) +
  ((Up - J) / 2) • (∑ α ∈ range n, ∑ β ∈ range n with α ≠ β,
    (num r (up α) * num r (up β) + num r (dn α) * num r (dn β))) +
  (-J) • (∑ α ∈ range n, ∑ β ∈ range n with α ≠ β,
    (r.cd (up α) * r.cd (dn β) * r.c (up β) * r.c (dn α) +
      r.cd (up α) * r.cd (dn α) * r.c (up β) * r.c (dn β))) +
  lv • (∑ α ∈ range n, (num r (up α) + num r (dn α)))

theorem kanamoriOp_two_spins (idx : Nat → Nat → Nat) (n : Nat) (U Up J lv : K) :
    kanamoriOp r idx n 2 U Up J lv =
      kanamoriUD r (fun α => idx α spinUp) (fun α => idx α spinDown) n U Up J lv := by
  unfold kanamoriOp kanamoriUD spinflipOp pairhopOp
  -- the pair sums first: `sum_spins_two` would split their outer sum too
  simp only [sum_spin_pairs_two]
  simp only [sum_spins_two]

theorem cm_num_num {x y : Nat} {a b : A} (hx : cm (num r x) X = a) (hy : cm (num r y) X = b)
    (hxy : Commute a (num r y)) : cm (num r x * num r y) X = num r x * b + num r y * a := by
  rw [cm_mul, hx, hy, hxy.eq]

theorem sPlus_num_comm (r : CARRep K A) {x u d : Nat} (hu : x ≠ u) (hd : x ≠ d) :
    Commute (sPlus r u d) (num r x) := by
  unfold Commute SemiconjBy sPlus
  rw [mul_assoc, ← num_c_comm r x d hd, ← mul_assoc, ← num_cd_comm r x u hu, mul_assoc]

variable (hc : ∀ i, r.c i * r.c i = 0) (hcd : ∀ i, r.cd i * r.cd i = 0)
include hc hcd

theorem SpinRaise.cm_nund_same (h : SpinRaise r X up dn n) {α : Nat} (hα : α < n) :
    cm (num r (up α) * num r (dn α)) X = 0 := by
  -- `- n_↑ S⁺ + S⁺ n_↓ = - (c†_↑ c_↑ c†_↑) c_↓ + c†_↑ (c_↓ c†_↓ c_↓) = 0`
  rw [cm_mul, h.cm_nu hα, h.cm_nd hα]
  unfold num sPlus
  rw [mul_neg, ← mul_assoc, cd_c_cd r hcd, mul_assoc (r.cd (up α)), ← mul_assoc (r.c (dn α)),
    c_cd_c r hc, neg_add_cancel]

omit hc hcd in
theorem SpinRaise.cm_spinflip (h : SpinRaise r X up dn n) (hm : ModesDistinct up dn n) {α β : Nat}
    (hα : α < n) (hβ : β < n) (hne : α ≠ β) :
    cm (r.cd (up α) * r.cd (dn β) * r.c (up β) * r.c (dn α)) X =
      num r (dn β) * sPlus r (up α) (dn α) - num r (up β) * sPlus r (up α) (dn α) := by
  rw [cm_mul, cm_mul, cm_mul, h.c_dn α hα, h.c_up β hβ, h.cd_dn β hβ, h.cd_up α hα]
  have e1 := num_cd_comm r (dn β) (up α) (Ne.symm (hm.ud α hα β hβ))
  have e2 := num_cd_comm r (up β) (up α) (hm.uu β hβ α hα (Ne.symm hne))
  unfold sPlus num at *
  linear_combination (norm := noncomm_ring) - e1 * r.c (dn α) + e2 * r.c (dn α)

theorem SpinRaise.cm_pairhop (h : SpinRaise r X up dn n) {α β : Nat}
    (hα : α < n) (hβ : β < n) :
    cm (r.cd (up α) * r.cd (dn α) * r.c (up β) * r.c (dn β)) X = 0 := by
  -- `[c†_↑ c†_↓, X] = - c†_↑ c†_↑ = 0` and `[c_↑ c_↓, X] = c_↓ c_↓ = 0`
  rw [mul_assoc (r.cd (up α) * r.cd (dn α))]
  simp only [cm_mul, h.c_dn β hβ, h.c_up β hβ, h.cd_dn α hα, h.cd_up α hα]
  simp only [mul_neg, hc, hcd, neg_zero, mul_zero, zero_mul, add_zero]

/-- **The Kanamori interaction commutes with every operator that acts on the modes of the site as
the total-spin raising operator does**, for every number of orbitals and all `U`, `U'`, `J`, `ε`
(the relation `U' = U − 2J` is not needed for the SPIN rotation invariance; what matters is that the
same-spin coefficient is `U' − J` -- two times `(U'−J)/2`, the sum running over ordered pairs -- and
that the spin-flip amplitude is `−J`). -/
theorem kanamoriUD_commutes (h2 : (2 : K) ≠ 0) (h : SpinRaise r X up dn n)
    (hm : ModesDistinct up dn n) (U Up J lv : K) :
    cm (kanamoriUD r up dn n U Up J lv) X = 0 := by
  -- `Pu`, `Pd`: the two sums all off-diagonal commutators reduce to
  obtain ⟨Pu, hPu⟩ : ∃ P : A, P = ∑ α ∈ range n, ∑ β ∈ range n with α ≠ β,
      num r (up α) * sPlus r (up β) (dn β) := ⟨_, rfl⟩
  obtain ⟨Pd, hPd⟩ : ∃ P : A, P = ∑ α ∈ range n, ∑ β ∈ range n with α ≠ β,
      num r (dn α) * sPlus r (up β) (dn β) := ⟨_, rfl⟩
  have hPu' := hPu
  have hPd' := hPd
  rw [offdiag_swap] at hPu' hPd'
  have p1 : cm (∑ α ∈ range n, num r (up α) * num r (dn α)) X = 0 := by
    rw [cm_sum]
    exact Finset.sum_eq_zero (fun α hα => h.cm_nund_same hc hcd (Finset.mem_range.mp hα))
  have p5 : cm (∑ α ∈ range n, (num r (up α) + num r (dn α))) X = 0 := by
    rw [cm_sum]
    refine Finset.sum_eq_zero (fun α hα => ?_)
    rw [cm_add, h.cm_nu (Finset.mem_range.mp hα), h.cm_nd (Finset.mem_range.mp hα), add_neg_cancel]
  -- `S⁺_α` commutes with the number operators of the other orbitals
  have cu : ∀ α < n, ∀ β < n, α ≠ β → Commute (sPlus r (up α) (dn α)) (num r (up β)) :=
    fun α hα β hβ hne => sPlus_num_comm r (hm.uu β hβ α hα hne.symm) (hm.ud β hβ α hα)
  have cd : ∀ α < n, ∀ β < n, α ≠ β → Commute (sPlus r (up α) (dn α)) (num r (dn β)) :=
    fun α hα β hβ hne => sPlus_num_comm r (hm.ud α hα β hβ).symm (hm.dd β hβ α hα hne.symm)
  have p2 : cm (∑ α ∈ range n, ∑ β ∈ range n with α ≠ β, num r (up α) * num r (dn β)) X
      = - (Pu - Pd) := by
    rw [cm_offdiag _ _ (fun α hα β hβ hne =>
      cm_num_num (h.cm_nu hα) (h.cm_nd hβ) (cd α hα β hβ hne))]
    simp only [mul_neg, Finset.sum_add_distrib, Finset.sum_neg_distrib]
    rw [neg_sub, sub_eq_neg_add, hPu, hPd']
  have p3 : cm (∑ α ∈ range n, ∑ β ∈ range n with α ≠ β,
      (num r (up α) * num r (up β) + num r (dn α) * num r (dn β))) X =
      (Pu - Pd) + (Pu - Pd) := by
    rw [cm_offdiag _ _ (fun α hα β hβ hne => (cm_add _ _ _).trans (congrArg₂ (· + ·)
      (cm_num_num (h.cm_nu hα) (h.cm_nu hβ) (cu α hα β hβ hne))
      (cm_num_num (h.cm_nd hα) (h.cm_nd hβ) (cd α hα β hβ hne).neg_left)))]
    simp only [mul_neg, Finset.sum_add_distrib, Finset.sum_neg_distrib]
    rw [← hPu, ← hPu', ← hPd, ← hPd']
    abel
  have p4 : cm (∑ α ∈ range n, ∑ β ∈ range n with α ≠ β,
      (r.cd (up α) * r.cd (dn β) * r.c (up β) * r.c (dn α) +
        r.cd (up α) * r.cd (dn α) * r.c (up β) * r.c (dn β))) X = - (Pu - Pd) := by
    rw [cm_offdiag _ _ (fun α hα β hβ hne => (cm_add _ _ _).trans (congrArg₂ (· + ·)
      (h.cm_spinflip hm hα hβ hne) (h.cm_pairhop hc hcd hα hβ)))]
    simp only [Finset.sum_sub_distrib, add_zero]
    rw [neg_sub, ← hPu', ← hPd']
  unfold kanamoriUD
  simp only [cm_add, cm_smul, p1, p2, p3, p4, p5, smul_zero]
  rw [zero_add, add_zero]
  -- the coefficients of `Pu - Pd` cancel: `-U' + 2 (U' - J)/2 + J = 0`
  have hhalf : (Up - J) / 2 + (Up - J) / 2 = Up - J := by
    rw [← two_mul, mul_div_cancel₀ _ h2]
  have : Up • -(Pu - Pd) + ((Up - J) / 2) • (Pu - Pd + (Pu - Pd)) + -J • -(Pu - Pd) =
      (((Up - J) / 2 + (Up - J) / 2) - (Up - J)) • (Pu - Pd) := by
    simp only [smul_neg, neg_smul, neg_neg, smul_add, ← add_smul, sub_smul]
    abel
  rw [this, hhalf, sub_self, zero_smul]

end KanamoriSU2

section TotalSpin
variable {K A : Type} [Field K] [Ring A] [Algebra K A]
variable (r : CARRep K A) {ι : Type} [DecidableEq ι]

/-- total-spin raising operator `S⁺ = Σ_p c†_{p↑} c_{p↓}` of a family `P` of orbitals
(`u p`, `d p`: single-particle indices of spin up / down of orbital `p`) -/
def totalSplus (P : Finset ι) (u d : ι → Nat) : A := ∑ p ∈ P, r.cd (u p) * r.c (d p)

def totalSminus (P : Finset ι) (u d : ι → Nat) : A := ∑ p ∈ P, r.cd (d p) * r.c (u p)

structure SpinModes (P : Finset ι) (u d : ι → Nat) : Prop where
  u_inj : ∀ p ∈ P, ∀ q ∈ P, u p = u q → p = q
  d_inj : ∀ p ∈ P, ∀ q ∈ P, d p = d q → p = q
  ud : ∀ p ∈ P, ∀ q ∈ P, u p ≠ d q

theorem SpinModes.swap {P : Finset ι} {u d : ι → Nat} (h : SpinModes P u d) : SpinModes P d u :=
  ⟨h.d_inj, h.u_inj, fun p hp q hq e => h.ud q hq p hp e.symm⟩

theorem totalSminus_eq (P : Finset ι) (u d : ι → Nat) : totalSminus r P u d = totalSplus r P d u := rfl

variable {r}

theorem spinRaise_total {P : Finset ι} {u d : ι → Nat} (hP : SpinModes P u d) (e : Nat → ι) (n : Nat)
    (he : ∀ α < n, e α ∈ P) :
    SpinRaise r (totalSplus r P u d) (fun α => u (e α)) (fun α => d (e α)) n := by
  unfold totalSplus
  refine ⟨fun α hα => ?_, fun α hα => ?_, fun α hα => ?_, fun α hα => ?_⟩
  · rw [cm_sum_right, Finset.sum_eq_single (e α)]
    · rw [cm_c_hop, if_pos rfl]
    · intro p hp hne
      rw [cm_c_hop, if_neg (fun h => hne (hP.u_inj p hp _ (he α hα) h.symm))]
    · intro h; exact absurd (he α hα) h
  · rw [cm_sum_right]
    refine Finset.sum_eq_zero (fun p hp => ?_)
    rw [cm_c_hop, if_neg (fun h => hP.ud p hp _ (he α hα) h.symm)]
  · rw [cm_sum_right]
    refine Finset.sum_eq_zero (fun p hp => ?_)
    rw [cm_cd_hop, if_neg (fun h => hP.ud _ (he α hα) p hp h.symm)]
  · rw [cm_sum_right, Finset.sum_eq_single (e α)]
    · rw [cm_cd_hop, if_pos rfl]
    · intro p hp hne
      rw [cm_cd_hop, if_neg (fun h => hne (hP.d_inj p hp _ (he α hα) h))]
    · intro h; exact absurd (he α hα) h

theorem modesDistinct_total {P : Finset ι} {u d : ι → Nat} (hP : SpinModes P u d) (e : Nat → ι)
    (n : Nat) (he : ∀ α < n, e α ∈ P) (hinj : ∀ α < n, ∀ β < n, e α = e β → α = β) :
    ModesDistinct (fun α => u (e α)) (fun α => d (e α)) n :=
  ⟨fun α hα β hβ => hP.ud _ (he α hα) _ (he β hβ),
   fun α hα β hβ hne h => hne (hinj α hα β hβ (hP.u_inj _ (he α hα) _ (he β hβ) h)),
   fun α hα β hβ hne h => hne (hinj α hα β hβ (hP.d_inj _ (he α hα) _ (he β hβ) h))⟩

end TotalSpin

section SpinSwap
variable {K A : Type} [Field K] [Ring A] [Algebra K A]
variable (r : CARRep K A)

theorem four_swap (a b x y : Nat) :
    r.cd a * r.cd b * r.c x * r.c y = r.cd b * r.cd a * r.c y * r.c x := by
  -- `c†_a c†_b = - c†_b c†_a` and `c_x c_y = - c_y c_x`
  rw [mul_assoc (r.cd a * r.cd b), eq_neg_of_add_eq_zero_left (r.cdcd a b),
    eq_neg_of_add_eq_zero_left (r.cc x y), neg_mul_neg, ← mul_assoc]

theorem sZ_swap (u d : Nat) : sZ r d u = - sZ r u d := by
  simp only [sZ, ← smul_neg, neg_sub]

theorem ssOp_spin_swap (u1 d1 u2 d2 : Nat → Nat) (n : Nat) (J : K) :
    ssOp r d1 u1 d2 u2 n J = ssOp r u1 d1 u2 d2 n J := by
  unfold ssOp
  congr 1
  refine Finset.sum_congr rfl (fun α _ => ?_)
  rw [sZ_swap r (u1 α), sZ_swap r (u2 α), neg_mul_neg]
  congr 2
  exact add_comm _ _

/-- exchanging the two spin components does not change the Kanamori operator: every sum is
symmetric, term by term or after exchanging the two orbitals -/
theorem kanamoriUD_swap (up dn : Nat → Nat) (n : Nat) (U Up J lv : K) :
    kanamoriUD r dn up n U Up J lv = kanamoriUD r up dn n U Up J lv := by
  have e : ∑ α ∈ range n, ∑ β ∈ range n with α ≠ β,
        (r.cd (dn α) * r.cd (up β) * r.c (dn β) * r.c (up α) +
          r.cd (dn α) * r.cd (up α) * r.c (dn β) * r.c (up β)) =
      ∑ α ∈ range n, ∑ β ∈ range n with α ≠ β,
        (r.cd (up α) * r.cd (dn β) * r.c (up β) * r.c (dn α) +
          r.cd (up α) * r.cd (dn α) * r.c (up β) * r.c (dn β)) := by
    simp only [Finset.sum_add_distrib]
    rw [offdiag_swap n (fun α β => r.cd (dn α) * r.cd (up β) * r.c (dn β) * r.c (up α))]
    exact congrArg₂ (· + ·) (offdiag_congr n _ _ (fun α _ β _ _ => four_swap r _ _ _ _))
      (offdiag_congr n _ _ (fun α _ β _ _ => four_swap r _ _ _ _))
  unfold kanamoriUD
  rw [e, Finset.sum_congr rfl fun α _ => num_num_comm r (dn α) (up α),
    (offdiag_swap n _).trans (offdiag_congr n _ _ fun α _ β _ _ => num_num_comm r (dn β) (up α)),
    offdiag_congr n _ _ fun α _ β _ _ => add_comm (num r (dn α) * num r (dn β)) _,
    Finset.sum_congr rfl fun α _ => add_comm (num r (dn α)) (num r (up α))]

end SpinSwap

end Pomerol.Spec.PresetSem
