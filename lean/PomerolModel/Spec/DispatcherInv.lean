import PomerolModel.Spec.DispatcherPool

/-
  Safety and liveness of the master/worker dispatcher model (`PomerolModel/Model/Dispatcher.lean`).

  One inductive invariant `Inv P jobs s` (= `Core` + `started` + a fact on rank 0's loop position) is shown to
  hold for `init P jobs` and to be preserved by every `step`; all theorems follow from it.
  `Core` is the invariant `Pool.Inv` of the worker pool (`Spec/DispatcherPool.lean`, where it is described and shown
  to be preserved by every operation on the pool), read for the pool of `P` ranks in which every rank but rank 0
  leaves its loop as soon as it has received `Finish` (`core_iff`).  `Core` and `Phase` spell it out on the model's own
  state so that `Inv` and what is stated with it (`progress`, `reachable_inv`) can be read without the pool; the
  proofs reach the pool through `core_iff`.

  `measure` is a plain `Nat`; `measure_step` (no step increases it, every reception decreases it) holds for every
  step of the model: the reachability hypothesis is not needed.  That every reachable state can be completed
  (`C16.no_deadlock`) is `Sched.exists_run_done` of `Spec/DispatcherPool.lean`, a well-founded induction on
  `measure` in which `progress` gives the schedule.  Core Lean only.
-/

namespace Pomerol.Spec.Disp
open Pomerol.Model.Disp Pomerol.Spec.Sched

abbrev dn (s : Sys) (i : Nat) : List Msg := s.down[i]?.getD []
abbrev upc (s : Sys) (i : Nat) : Nat := s.up[i]?.getD 0
abbrev wt (s : Sys) (i : Nat) : Bool := s.m.wait[i]?.getD false

abbrev pool (s : Sys) : Pool := ⟨s.m.jobs, s.m.idle, s.m.wait, s.m.fin, s.m.dmap, s.ws, s.down, s.up, s.log⟩

def withPool (s : Sys) (p : Pool) : Sys :=
  { s with m := { s.m with jobs := p.jobs, idle := p.idle, wait := p.wait, fin := p.fin, dmap := p.dmap },
           ws := p.ws, down := p.down, up := p.up, log := p.log }

def setNext (s : Sys) (n : Nat) : Sys := { s with m := { s.m with next := n } }

def collect (s : Sys) (k : Nat) : Sys := withPool s ((pool s).collect k)

theorem order_eq (s : Sys) : order s = withPool s (pool s).order := rfl

theorem finishPhase_eq (s : Sys) : finishPhase s = withPool s ((pool s).finishPhase s.P) := by
  rw [finishPhase, Pool.finishPhase, apply_ite (withPool s)]
  exact ite_congr (by simp) (fun _ => rfl) (fun _ => rfl)

theorem workerTest_eq (s : Sys) (r : Nat) (b : Bool) :
    workerTest s r b = ((pool s).workerTest r (decide (r ≠ 0)) b).map (withPool s) := by
  obtain ⟨P, m, ws, down, up, log⟩ := s
  unfold workerTest Pool.workerTest
  dsimp only [Pool.dn]
  cases hw : ws[r]? with
  | none => rfl
  | some w =>
    obtain ⟨st, cur, ex⟩ := w
    -- a worker that has left its loop or is not pending makes no step, in either model
    cases ex <;> cases st <;> try rfl
    cases b
    · simp [withPool, set_eq_self ws r _ hw]
    -- what is left: a worker in its loop sees the first message of its channel
    rw [List.getD_eq_getElem?_getD]
    cases hd : down[r]?.getD [] with
    | nil => rfl
    | cons m rest =>
      cases m with
      | work j => simp [Pool.doWork, withPool]
      | finish => by_cases hr : r = 0 <;> simp [Pool.doFin, withPool, hr]

theorem workerTest_some {s s' : Sys} {r : Nat} {b : Bool} (h : workerTest s r b = some s') :
    ∃ p', (pool s).workerTest r (decide (r ≠ 0)) b = some p' ∧ s' = withPool s p' := by
  rw [workerTest_eq, Option.map_eq_some_iff] at h
  obtain ⟨p', h1, h2⟩ := h
  exact ⟨p', h1, h2.symm⟩

/-- the five phases of worker `i` within a round: `Pool.Phase`, read with `lv := i ≠ 0` (rank 0, being the master as
well, does not leave its loop on receiving `Finish`) -/
def Phase (b : Bool) (i : Nat) (idl : Prop) (wt : Bool) (d : List Msg) (u : Nat) (w : Worker) : Prop :=
  (b = false ∧ idl ∧ wt = false ∧ d = [] ∧ u = 0 ∧ w.st = .pending ∧ w.exited = false) ∨
  (b = false ∧ ¬ idl ∧ wt = true ∧ (∃ j, d = [Msg.work j]) ∧ u = 0 ∧ w.st = .pending ∧ w.exited = false) ∨
  (b = false ∧ ¬ idl ∧ wt = true ∧ d = [] ∧ u = 1 ∧ w.st = .pending ∧ w.exited = false) ∨
  (b = true ∧ idl ∧ wt = false ∧ d = [Msg.finish] ∧ u = 0 ∧ w.st = .pending ∧ w.exited = false) ∨
  (b = true ∧ idl ∧ wt = false ∧ d = [] ∧ u = 0 ∧ w.st = .finish ∧ (i ≠ 0 → w.exited = true))

/-- the part of the invariant that does not mention `next`/`started` -/
structure Core (P : Nat) (jobs : List Nat) (s : Sys) : Prop where
  hP : s.P = P
  lw : s.m.wait.length = P
  lws : s.ws.length = P
  ld : s.down.length = P
  lu : s.up.length = P
  idl_lt : ∀ i ∈ s.m.idle, i < P
  idl_nd : s.m.idle.Nodup
  cnt : s.m.idle.length + s.m.wait.count true = P
  K : (s.m.dmap.map (·.1)).reverse ++ s.m.jobs = jobs
  L1 : ∀ x ∈ s.log, x ∈ s.m.dmap
  L2 : (s.log.map (·.1)).Nodup
  D1 : ∀ j i, (j, i) ∈ s.m.dmap → i < P ∧ (dn s i = [Msg.work j] ∨ (j, i) ∈ s.log)
  D2 : ∀ i j, dn s i = [Msg.work j] → (j, i) ∈ s.m.dmap ∧ j ∉ s.log.map (·.1)
  ph : ∃ b, s.m.fin = List.replicate P b ∧ (b = true → s.m.jobs = []) ∧
        ∀ i, i < P → ∃ w, s.ws[i]? = some w ∧ Phase b i (i ∈ s.m.idle) (wt s i) (dn s i) (upc s i) w

theorem core_iff (P : Nat) (jobs : List Nat) (s : Sys) :
    Core P jobs s ↔ s.P = P ∧ Pool.Inv (· ≠ 0) P jobs (pool s) :=
  ⟨fun h => ⟨h.hP, h.lw, h.lws, h.ld, h.lu, h.idl_lt, h.idl_nd, h.cnt, h.K, h.L1, h.L2, h.D1, h.D2, h.ph⟩,
   fun ⟨hP, h⟩ => ⟨hP, h.lw, h.lws, h.ld, h.lu, h.idl_lt, h.idl_nd, h.cnt, h.K, h.L1, h.L2, h.D1, h.D2, h.ph⟩⟩

theorem Core.pool {P : Nat} {jobs : List Nat} {s : Sys} (h : Core P jobs s) : Pool.Inv (· ≠ 0) P jobs (pool s) :=
  ((core_iff P jobs s).1 h).2

theorem core_withPool {P : Nat} {jobs : List Nat} {s : Sys} {p : Pool} (hP : s.P = P)
    (h : Pool.Inv (· ≠ 0) P jobs p) : Core P jobs (withPool s p) :=
  (core_iff P jobs _).2 ⟨hP, h⟩

theorem core_setNext {P : Nat} {jobs : List Nat} {s : Sys} (n : Nat) (h : Core P jobs s) : Core P jobs (setNext s n) :=
  (core_iff P jobs _).2 ((core_iff P jobs s).1 h)

/-- the end of rank 0's loop iteration: the Finish phase, then rank 0 leaves if it has received `Finish` itself, and
goes on with `order()` if not -/
def loopTail (s1 : Sys) : Option Sys :=
  match ((pool s1).finishPhase s1.P).ws[0]? with
  | none => none
  | some w0 =>
    if w0.st = .finish then some (setNext (withPool s1 (((pool s1).finishPhase s1.P).exit 0 w0)) 0)
    else some (setNext (withPool s1 ((pool s1).finishPhase s1.P).order) 0)

/-- the end of a `check_workers` test: advance, or finish the loop iteration -/
def masterTail (s s1 : Sys) : Option Sys :=
  if s.m.next < s.P then some (setNext s1 (s.m.next + 1)) else loopTail s1

theorem masterTest_false_eq (s : Sys) : masterTest s false = masterTail s s := by
  simp only [masterTest, masterTail, loopTail, finishPhase_eq]
  rfl

theorem masterTest_true_eq (s : Sys) : masterTest s true =
    if wt s (s.m.next - 1) = true ∧ 0 < upc s (s.m.next - 1) then masterTail s (collect s (s.m.next - 1)) else none := by
  have hc : (s.m.wait.getD (s.m.next - 1) false && decide (s.up.getD (s.m.next - 1) 0 > 0)) =
      decide (wt s (s.m.next - 1) = true ∧ 0 < upc s (s.m.next - 1)) := by
    simp [wt, upc]
  by_cases h : wt s (s.m.next - 1) = true ∧ 0 < upc s (s.m.next - 1)
  · -- a successful poll is the reception of the token followed by a failing poll
    have : masterTest s true = masterTest (collect s (s.m.next - 1)) false := by
      unfold masterTest
      dsimp only
      rw [hc.trans (decide_eq_true h)]
      rfl
    rw [if_pos h, this, masterTest_false_eq]
    rfl
  · rw [if_neg h]
    unfold masterTest
    dsimp only
    rw [hc.trans (decide_eq_false h)]
    rfl

/-- Last conjunct: a rank 0 that has received `Finish` and not yet left is inside `check_workers` (`next ≠ 0`), never
at the top of its loop. -/
def Inv (P : Nat) (jobs : List Nat) (s : Sys) : Prop :=
  Core P jobs s ∧ s.m.started = true ∧
    ∀ w, s.ws[0]? = some w → w.st = .finish → w.exited = false → s.m.next ≠ 0

theorem inv_setNext {P : Nat} {jobs : List Nat} {s : Sys} (h : Inv P jobs s) (n : Nat) (hn : n ≠ 0) :
    Inv P jobs (setNext s n) :=
  ⟨core_setNext n h.1, h.2.1, fun _ _ _ _ => hn⟩

theorem loopTail_inv (P : Nat) (jobs : List Nat) (hnd : jobs.Nodup) (s1 s' : Sys)
    (h : Core P jobs s1) (hst : s1.m.started = true) (hs : loopTail s1 = some s') : Inv P jobs s' := by
  have hq : Pool.Inv (· ≠ 0) P jobs ((pool s1).finishPhase s1.P) := by rw [h.hP]; exact h.pool.finishPhase
  unfold loopTail at hs
  split at hs
  · cases hs
  · rename_i w0 hw0
    split at hs
    · -- rank 0 leaves: its record is marked `exited`
      rename_i hfin
      cases hs
      refine ⟨core_setNext 0 (core_withPool h.hP (hq.exit hw0 hfin)), hst, ?_⟩
      intro w hw _ hex
      have hw' : (((pool s1).finishPhase s1.P).ws.set 0 { w0 with exited := true })[0]? = some w := hw
      rw [List.getElem?_set_self (List.getElem?_eq_some_iff.1 hw0).1] at hw'
      cases hw'
      cases hex
    · -- rank 0 goes on: it has not received `Finish`
      rename_i hfin
      cases hs
      refine ⟨core_setNext 0 (core_withPool h.hP (hq.order hnd)), hst, ?_⟩
      intro w hw hwf
      have hw' : ((pool s1).finishPhase s1.P).ws[0]? = some w := hw
      rw [hw0] at hw'
      cases hw'
      exact absurd hwf hfin

theorem masterTail_inv (P : Nat) (jobs : List Nat) (hnd : jobs.Nodup) (s s1 s' : Sys)
    (h : Core P jobs s1) (hst : s1.m.started = true) (hs : masterTail s s1 = some s') : Inv P jobs s' := by
  unfold masterTail at hs
  split at hs
  · cases hs
    exact ⟨core_setNext _ h, hst, fun _ _ _ _ => Nat.succ_ne_zero _⟩
  · exact loopTail_inv P jobs hnd s1 s' h hst hs

theorem step_inv (P : Nat) (jobs : List Nat) (hnd : jobs.Nodup) (s s' : Sys) (r : Nat) (b : Bool)
    (h : Inv P jobs s) (hs : step s r b = some s') : Inv P jobs s' := by
  obtain ⟨hc, hst, hr0⟩ := h
  unfold step at hs
  by_cases hr : r = 0
  · subst hr
    simp only [if_true, hst] at hs
    split at hs
    · split at hs
      · cases hs
      · rename_i s1 hs1
        cases hs
        obtain ⟨p', hp', rfl⟩ := workerTest_some hs1
        exact ⟨core_setNext 1 (core_withPool hc.hP (hc.pool.workerTest hnd (fun h => absurd rfl h) hp')), hst,
          fun _ _ _ _ => Nat.succ_ne_zero 0⟩
    · cases b
      · rw [masterTest_false_eq] at hs
        exact masterTail_inv P jobs hnd s s s' hc hst hs
      · rw [masterTest_true_eq] at hs
        split at hs
        · rename_i hk
          exact masterTail_inv P jobs hnd s (collect s (s.m.next - 1)) s'
            (core_withPool hc.hP (hc.pool.collect hk.1 hk.2)) hst hs
        · cases hs
  · rw [if_neg hr] at hs
    obtain ⟨p', hp', rfl⟩ := workerTest_some hs
    refine ⟨core_withPool hc.hP (hc.pool.workerTest hnd (fun _ => by simp [hr]) hp'), hst, ?_⟩
    intro w hw
    have : s.ws[0]? = some w := by
      rw [← hw]; exact ((Pool.workerTest_frame hp').2 0 (Ne.symm hr)).symm
    exact hr0 w this

theorem init_inv (P : Nat) (jobs : List Nat) (hnd : jobs.Nodup) : Inv P jobs (init P jobs) := by
  refine ⟨core_withPool (s := { init0 P jobs with m := { (init0 P jobs).m with started := true } }) rfl
    ((Pool.Inv.init _ P jobs).order hnd), rfl, ?_⟩
  intro w hw hf
  change (List.replicate P ({} : Worker))[0]? = some w at hw
  rw [List.getElem?_replicate] at hw
  split at hw
  · cases hw; simp at hf
  · cases hw

theorem reach_iff (s s' : Sys) : Reach step s s' ↔ ∃ sched, run s sched = some s' :=
  reach_iff_run run (fun _ => rfl) (fun s r b rest => by rw [run]; cases step s r b <;> rfl) s s'

/-- states reachable in a round with `P` ranks and the given job order, under ANY schedule (any interleaving of
the ranks and any message delays) -/
def Reachable (P : Nat) (jobs : List Nat) (s : Sys) : Prop := ∃ sched, run (init P jobs) sched = some s

theorem reachable_inv (P : Nat) (jobs : List Nat) (hnd : jobs.Nodup) (s : Sys) (h : Reachable P jobs s) :
    Inv P jobs s :=
  ((reach_iff _ _).2 h).inv (fun s s' r b => step_inv P jobs hnd s s' r b) (init_inv P jobs hnd)

theorem reachable_pool (P : Nat) (jobs : List Nat) (hnd : jobs.Nodup) (s : Sys) (h : Reachable P jobs s) :
    Pool.Inv (· ≠ 0) P jobs (pool s) :=
  (reachable_inv P jobs hnd s h).1.pool

theorem all_exited {s : Sys} (hf : allExited s = true) : ∀ w ∈ (pool s).ws, w.exited = true := by
  simpa [allExited] using hf

/-- LIVENESS: a progress measure, `Pool.measure` of the pool (`measure_eq`; the weights are explained there). -/
def measure (s : Sys) : Nat :=
  3 * s.m.jobs.length + wsum wD s.down + wsum id s.up + wsum wW s.ws + wsum wF s.m.fin

theorem measure_eq (s : Sys) : measure s = (pool s).measure := rfl
theorem measure_withPool (s : Sys) (p : Pool) : measure (withPool s p) = p.measure := rfl
theorem measure_setNext (s : Sys) (n : Nat) : measure (setNext s n) = measure s := rfl

theorem measure_workerTest (s s' : Sys) (r : Nat) (b : Bool) (hs : workerTest s r b = some s') :
    measure s' ≤ measure s ∧ (b = true → measure s' < measure s) := by
  obtain ⟨p', hp', rfl⟩ := workerTest_some hs
  rw [measure_withPool, measure_eq]
  exact Pool.measure_workerTest hp'

theorem measure_loopTail (s1 s' : Sys) (hs : loopTail s1 = some s') : measure s' ≤ measure s1 := by
  have h2 := Pool.measure_finishPhase_le s1.P (pool s1)
  rw [← measure_eq] at h2
  unfold loopTail at hs
  split at hs
  · cases hs
  · rename_i w0 hw0
    split at hs <;> cases hs <;> rw [measure_setNext, measure_withPool]
    · exact Nat.le_trans (Pool.measure_exit _ 0 w0 hw0).1 h2
    · exact Nat.le_trans (Pool.measure_order_le _) h2

theorem measure_masterTail (s s1 s' : Sys) (hs : masterTail s s1 = some s') : measure s' ≤ measure s1 := by
  unfold masterTail at hs
  split at hs
  · cases hs; exact Nat.le_refl _
  · exact measure_loopTail s1 s' hs

theorem measure_masterTest (s s' : Sys) (b : Bool) (hs : masterTest s b = some s') :
    measure s' ≤ measure s ∧ (b = true → measure s' < measure s) := by
  cases b
  · rw [masterTest_false_eq] at hs
    exact ⟨measure_masterTail s s s' hs, fun h => by simp at h⟩
  · rw [masterTest_true_eq] at hs
    split at hs
    · rename_i hk
      have h1 := measure_masterTail s _ s' hs
      have h2 : measure (collect s (s.m.next - 1)) < measure s := by
        rw [collect, measure_withPool, measure_eq]; exact Pool.measure_collect (pool s) _ hk.2
      have := Nat.lt_of_le_of_lt h1 h2
      exact ⟨Nat.le_of_lt this, fun _ => this⟩
    · cases hs

theorem measure_step (s s' : Sys) (r : Nat) (b : Bool) (hs : step s r b = some s') :
    measure s' ≤ measure s ∧ (b = true → measure s' < measure s) := by
  unfold step at hs
  by_cases hr : r = 0
  · subst hr
    simp only [if_true] at hs
    have h0 : measure (if s.m.started = true then s else order { s with m := { s.m with started := true } })
        ≤ measure s := by
      split
      · exact Nat.le_refl _
      · rw [order_eq, measure_withPool]; exact Pool.measure_order_le _
    generalize (if s.m.started = true then s else order { s with m := { s.m with started := true } }) = s0 at hs h0
    split at hs
    · split at hs
      · cases hs
      · rename_i s1 hs1
        cases hs
        have := measure_workerTest s0 s1 0 b hs1
        show measure (setNext s1 1) ≤ _ ∧ (_ → measure (setNext s1 1) < _)
        rw [measure_setNext]
        exact ⟨Nat.le_trans this.1 h0, fun hb => Nat.lt_of_lt_of_le (this.2 hb) h0⟩
    · have := measure_masterTest s0 s' b hs
      exact ⟨Nat.le_trans this.1 h0, fun hb => Nat.lt_of_lt_of_le (this.2 hb) h0⟩
  · rw [if_neg hr] at hs
    exact measure_workerTest s s' r b hs

theorem step0_master (s : Sys) (b : Bool) (hst : s.m.started = true) (hn : s.m.next ≠ 0) :
    step s 0 b = masterTest s b := by
  simp [step, hst, hn]

theorem step0_worker (s s1 : Sys) (b : Bool) (hst : s.m.started = true) (hn : s.m.next = 0)
    (h : workerTest s 0 b = some s1) : step s 0 b = some (setNext s1 1) := by
  simp [step, hst, hn, h, setNext]

theorem step_worker (s : Sys) (r : Nat) (b : Bool) (hr : r ≠ 0) : step s r b = workerTest s r b := by
  simp [step, hr]

theorem advance {P : Nat} {s : Sys} (hP : s.P = P) (hst : s.m.started = true) (h0 : s.m.next ≠ 0) {t : Nat}
    (ht : s.m.next ≤ t) (htP : t ≤ P) : Reach step s (setNext s t) := by
  induction ht with
  | refl => exact .refl s
  | @step t ht ih =>
    have ht0 : t ≠ 0 := fun h => h0 (Nat.le_zero.1 (h ▸ ht))
    have hstep : step (setNext s t) 0 false = some (setNext s (t + 1)) := by
      rw [step0_master (setNext s t) false hst ht0, masterTest_false_eq, masterTail, if_pos (hP ▸ htP)]
      rfl
    exact (ih (Nat.le_of_succ_le htP)).trans (.single hstep)

theorem loopTail_some (s1 : Sys) (hws : 0 < s1.ws.length) : ∃ s', loopTail s1 = some s' ∧ s'.m.next = 0 := by
  have : 0 < ((pool s1).finishPhase s1.P).ws.length := by rw [Pool.finishPhase_ws]; exact hws
  unfold loopTail
  rw [List.getElem?_eq_getElem this]
  simp only
  split <;> exact ⟨_, rfl, rfl⟩

theorem end_iteration (P : Nat) (jobs : List Nat) (hnd : jobs.Nodup) (s s' : Sys) (h : Inv P jobs s)
    (h0 : s.m.next ≠ 0) (hs' : loopTail s = some s') : Reach step s s' ∧ Inv P jobs s' := by
  obtain ⟨t, hadv, ht0, htP⟩ : ∃ t, Reach step s (setNext s t) ∧ t ≠ 0 ∧ ¬ t < P := by
    by_cases hl : s.m.next < P
    · exact ⟨P, advance h.1.hP h.2.1 h0 (Nat.le_of_lt hl) (Nat.le_refl P),
        Nat.ne_zero_of_lt hl, Nat.lt_irrefl P⟩
    · exact ⟨s.m.next, .refl s, h0, hl⟩
  have hstep : step (setNext s t) 0 false = some s' := by
    rw [step0_master (setNext s t) false h.2.1 ht0, masterTest_false_eq, masterTail,
      if_neg (by show ¬ t < s.P; rw [h.1.hP]; exact htP)]
    exact hs'
  exact ⟨hadv.trans (.single hstep), step_inv P jobs hnd _ _ _ _ (inv_setNext h t ht0) hstep⟩

theorem to_next0 (P : Nat) (jobs : List Nat) (hP : 0 < P) (hnd : jobs.Nodup) (s : Sys) (h : Inv P jobs s) :
    ∃ s', Reach step s s' ∧ Inv P jobs s' ∧ s'.m.next = 0 ∧ measure s' ≤ measure s := by
  by_cases h0 : s.m.next = 0
  · exact ⟨s, .refl s, h, h0, Nat.le_refl _⟩
  obtain ⟨s', hs', hn⟩ := loopTail_some s (by rw [h.1.lws]; exact hP)
  obtain ⟨hr, hi⟩ := end_iteration P jobs hnd s s' h h0 hs'
  exact ⟨s', hr, hi, hn, measure_loopTail s s' hs'⟩

theorem quiet_end (P : Nat) (jobs : List Nat) (hP : 0 < P) (s s' : Sys) (h : Inv P jobs s)
    (hdn : ∀ i, i < P → dn s i = []) (hwt : ∀ i, i < P → wt s i = false)
    (hex0 : ∀ w0, s.ws[0]? = some w0 → w0.exited = false) (hs' : loopTail s = some s') :
    measure s' < measure s := by
  obtain ⟨b, hfin, hbj, hph⟩ := h.1.pool.ph
  obtain ⟨w0, hw0, hp0⟩ := hph 0 hP
  have hw0' : ((pool s).finishPhase s.P).ws[0]? = some w0 := by rw [Pool.finishPhase_ws]; exact hw0
  rw [loopTail, hw0'] at hs'
  simp only at hs'
  have hle := Pool.measure_finishPhase_le s.P (pool s)
  cases b
  · -- `Finish` not yet sent: rank 0 is still pending
    rw [if_neg (by rw [hp0.pending_of_not_fin]; simp)] at hs'
    cases hs'
    rw [measure_setNext, measure_withPool, measure_eq, h.1.hP]
    rcases h.1.pool.quiet_progress hP hwt hfin with hlt | ⟨heq, hlt⟩
    · exact Nat.lt_of_le_of_lt (Pool.measure_order_le _) hlt
    · rw [heq]; exact hlt
  · -- `Finish` sent and rank 0's channel empty: it has received it, and leaves now
    rw [if_pos (hp0.finished_of_quiet (hdn 0 hP)).1] at hs'
    cases hs'
    rw [measure_setNext, measure_withPool, measure_eq]
    exact Nat.lt_of_lt_of_le ((Pool.measure_exit _ 0 w0 hw0').2 (hex0 w0 hw0)) hle

theorem poll_progress (P : Nat) (jobs : List Nat) (hP : 0 < P) (hnd : jobs.Nodup) (s : Sys) (h : Inv P jobs s)
    (h1 : s.m.next = 1) (hdn : ∀ i, i < P → dn s i = []) (hex0 : ∀ w0, s.ws[0]? = some w0 → w0.exited = false) :
    ∃ s', Reach step s s' ∧ Inv P jobs s' ∧ s'.m.next = 0 ∧ measure s' < measure s := by
  have hws : 0 < s.ws.length := by rw [h.1.lws]; exact hP
  -- The schedule is ours to choose, and a failed `test()` is always a legal step.  Either some worker the master
  -- waits for has its token in flight: fail all polls before that worker, then receive the token.  Or nobody is
  -- waited for: fail all polls, and the end of the iteration makes progress.
  by_cases hc : ∃ k, k < P ∧ wt s k = true ∧ 0 < upc s k
  · obtain ⟨k, hk, hwk, huk⟩ := hc
    have h2 := inv_setNext h (k + 1) (Nat.succ_ne_zero k)
    obtain ⟨s1, hs1⟩ : ∃ s1, masterTail (setNext s (k + 1)) (collect (setNext s (k + 1)) k) = some s1 := by
      unfold masterTail
      split
      · exact ⟨_, rfl⟩
      · obtain ⟨s1, hs1, _⟩ := loopTail_some (collect (setNext s (k + 1)) k) hws
        exact ⟨s1, hs1⟩
    have hstep : step (setNext s (k + 1)) 0 true = some s1 := by
      rw [step0_master _ true h2.2.1 (Nat.succ_ne_zero k), masterTest_true_eq, ← hs1]
      exact if_pos ⟨hwk, huk⟩
    obtain ⟨s', hr, hi, hn, hm⟩ := to_next0 P jobs hP hnd s1 (step_inv P jobs hnd _ _ _ _ h2 hstep)
    have hm1 : measure s1 < measure s := (measure_step _ _ _ _ hstep).2 rfl
    exact ⟨s', ((advance h.1.hP h.2.1 (h1 ▸ Nat.one_ne_zero) (h1 ▸ Nat.le_add_left 1 k) hk).trans
      (.single hstep)).trans hr, hi, hn, Nat.lt_of_le_of_lt hm hm1⟩
  · obtain ⟨s', hs', hn⟩ := loopTail_some s hws
    obtain ⟨hr, hi⟩ := end_iteration P jobs hnd s s' h (h1 ▸ Nat.one_ne_zero) hs'
    exact ⟨s', hr, hi, hn, quiet_end P jobs hP s s' h hdn (h.1.pool.not_waited hdn hc) hex0 hs'⟩

theorem progress (P : Nat) (jobs : List Nat) (hP : 0 < P) (hnd : jobs.Nodup) (s : Sys) (h : Inv P jobs s)
    (h0 : s.m.next = 0) (hne : allExited s = false) :
    ∃ sched s', run s sched = some s' ∧ Inv P jobs s' ∧ s'.m.next = 0 ∧ measure s' < measure s := by
  suffices hr : ∃ s', Reach step s s' ∧ Inv P jobs s' ∧ s'.m.next = 0 ∧ measure s' < measure s by
    obtain ⟨s', hr, hrest⟩ := hr
    obtain ⟨sched, hs⟩ := (reach_iff _ _).1 hr
    exact ⟨sched, s', hs, hrest⟩
  by_cases hex : ∃ i, i < P ∧ dn s i ≠ []
  · -- a message is in flight: its addressee receives it
    obtain ⟨i, hiP, hd⟩ := hex
    obtain ⟨p', hp'⟩ := h.1.pool.can_receive hiP (decide (i ≠ 0)) hd
    have hs1 : workerTest s i true = some (withPool s p') := by rw [workerTest_eq, hp']; rfl
    by_cases hi0 : i = 0
    · subst hi0
      have hstep : step s 0 true = some (setNext (withPool s p') 1) := step0_worker s _ true h.2.1 h0 hs1
      have hm1 := (measure_step _ _ _ _ hstep).2 rfl
      obtain ⟨s', hr, hi, hn', hm⟩ := to_next0 P jobs hP hnd _ (step_inv P jobs hnd _ _ _ _ h hstep)
      exact ⟨s', (Reach.single hstep).trans hr, hi, hn', Nat.lt_of_le_of_lt hm hm1⟩
    · have hstep : step s i true = some (withPool s p') := by rw [step_worker s i true hi0]; exact hs1
      exact ⟨_, .single hstep, step_inv P jobs hnd _ _ _ _ h hstep, h0, (measure_step _ _ _ _ hstep).2 rfl⟩
  · have hquiet : ∀ i, i < P → dn s i = [] := fun i hiP =>
      Classical.byContradiction fun hc => hex ⟨i, hiP, hc⟩
    obtain ⟨b, hfin, hbj, hph⟩ := h.1.pool.ph
    obtain ⟨w0, hw0, hp0⟩ := hph 0 hP
    -- rank 0 has not left: otherwise everybody has
    have hex0 : w0.exited = false := by
      cases hw0e : w0.exited
      · rfl
      · have hb := (hp0.of_exited hw0e).1
        subst hb
        have : allExited s = true := by
          simp only [allExited, List.all_eq_true]
          intro w hw
          obtain ⟨i, hi⟩ := List.mem_iff_getElem?.1 hw
          by_cases hi0 : i = 0
          · subst hi0; rw [hw0] at hi; cases hi; exact hw0e
          · exact h.1.pool.gone_of_quiet hph hquiet hi hi0
        rw [this] at hne; cases hne
    have hpend : w0.st = .pending :=
      hp0.pending_or_finish.resolve_right fun hf => h.2.2 w0 hw0 hf hex0 h0
    -- rank 0's own `receive_order` sees nothing; then the polling loop
    have hstep : step s 0 false = some (setNext s 1) :=
      step0_worker s s false h.2.1 h0 (by
        rw [workerTest_eq, Pool.workerTest_false _ hw0 hex0 hpend]; rfl)
    obtain ⟨s', hr, hi, hn', hm⟩ := poll_progress P jobs hP hnd (setNext s 1)
      (step_inv P jobs hnd _ _ _ _ h hstep) rfl hquiet (fun w hw => by
        rw [show (setNext s 1).ws = (pool s).ws from rfl, hw0] at hw; cases hw; exact hex0)
    exact ⟨s', (Reach.single hstep).trans hr, hi, hn', hm⟩

end Pomerol.Spec.Disp
