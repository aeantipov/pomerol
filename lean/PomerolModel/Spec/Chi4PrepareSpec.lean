/-
  The world-stripe selection of `TwoParticleGF::prepare` (model: `Model/Chi4Prepare.lean`) creates exactly
  the closing chains of blocks `(b0,b1) ∈ O_{p,0}, (b1,b2) ∈ O_{p,1}, (b2,b3) ∈ O_{p,2}, (b3,b0) ∈ CX4`
  with a retained block, each once (`stripes_selected_exactly`; for bimaps, i.e. graphs of partial
  injective maps: the hypothesis cannot be dropped for the loop as an algorithm); the parts it creates add
  up to the per-ordering Lehmann sum and, with signs, to `chiLehmann`; and this holds for ANY numbering of
  the eigenstates by blocks (`selected_stripes_sum_partition_free`).
-/
import PomerolModel.Model.Chi4Prepare
import PomerolModel.Spec.Chi4Refine
import PomerolModel.Spec.BlockBasis
import PomerolModel.Spec.ListLemmas

namespace Pomerol.Spec.Chi4PrepareSpec
open Pomerol.Model.Chi4Prepare

/-- the left side of the bimap is a key -/
def LeftUnique (m : BlockMap) : Prop := m.Pairwise fun q q' => q.1 ≠ q'.1

/-- the right side of the bimap is a key -/
def RightUnique (m : BlockMap) : Prop := m.Pairwise fun q q' => q.2 ≠ q'.2

/-- the list is the content of a `bimap<set_of, set_of>`: the graph of a partial injective map -/
def IsBimap (m : BlockMap) : Prop := LeftUnique m ∧ RightUnique m

instance (m : BlockMap) : Decidable (LeftUnique m) := by unfold LeftUnique; infer_instance
instance (m : BlockMap) : Decidable (RightUnique m) := by unfold RightUnique; infer_instance
instance (m : BlockMap) : Decidable (IsBimap m) := by unfold IsBimap; infer_instance

theorem isBimap_nil : IsBimap [] := ⟨List.Pairwise.nil, List.Pairwise.nil⟩

theorem getRightIndex_eq_some_iff (m : BlockMap) (h : LeftUnique m) (l r : ℕ) :
    getRightIndex m (some l) = some r ↔ (l, r) ∈ m := by
  have e : getRightIndex m (some l) = (m.find? (fun q => q.1 == l)).map Prod.snd := by
    unfold getRightIndex; dsimp only
    cases m.find? (fun q => q.1 == l) <;> rfl
  rw [e, Option.map_eq_some_iff]
  constructor
  · rintro ⟨q, hf, rfl⟩
    obtain ⟨hq, rfl⟩ := (find?_key_iff Prod.fst h _ q).mp hf
    exact hq
  · intro hm
    exact ⟨(l, r), (find?_key_iff Prod.fst h l (l, r)).mpr ⟨hm, rfl⟩, rfl⟩

theorem getLeftIndex_eq_some_iff (m : BlockMap) (h : RightUnique m) (l r : ℕ) :
    getLeftIndex m (some r) = some l ↔ (l, r) ∈ m := by
  have e : getLeftIndex m (some r) = (m.find? (fun q => q.2 == r)).map Prod.fst := by
    unfold getLeftIndex; dsimp only
    cases m.find? (fun q => q.2 == r) <;> rfl
  rw [e, Option.map_eq_some_iff]
  constructor
  · rintro ⟨q, hf, rfl⟩
    obtain ⟨hq, rfl⟩ := (find?_key_iff Prod.snd h _ q).mp hf
    exact hq
  · intro hm
    exact ⟨(l, r), (find?_key_iff Prod.snd h r (l, r)).mpr ⟨hm, rfl⟩, rfl⟩

/-- the bimap of the operator selected by the `switch` of `TwoParticleGF::getLeftIndex/getRightIndex`
(`default: return ERROR_BLOCK_NUMBER` = lookup in an empty bimap) -/
def opAt (c1 c2 cx3 : BlockMap) : Option ℕ → BlockMap
  | some 0 => c1
  | some 1 => c2
  | some 2 => cx3
  | _ => []

theorem isBimap_opAt (c1 c2 cx3 : BlockMap) (h1 : IsBimap c1) (h2 : IsBimap c2) (h3 : IsBimap cx3)
    (e : Option ℕ) : IsBimap (opAt c1 c2 cx3 e) := by
  match e with
  | some 0 => exact h1
  | some 1 => exact h2
  | some 2 => exact h3
  | some (n + 3) => exact isBimap_nil
  | none => exact isBimap_nil

theorem tpGetLeftIndex_eq (c1 c2 cx3 : BlockMap) (p pos : ℕ) (r : BlockNumber) :
    tpGetLeftIndex c1 c2 cx3 p pos r = getLeftIndex (opAt c1 c2 cx3 (permAt p pos)) r := by
  unfold tpGetLeftIndex
  match permAt p pos with
  | some 0 => rfl
  | some 1 => rfl
  | some 2 => rfl
  | some (n + 3) => cases r <;> rfl
  | none => cases r <;> rfl

theorem tpGetRightIndex_eq (c1 c2 cx3 : BlockMap) (p pos : ℕ) (l : BlockNumber) :
    tpGetRightIndex c1 c2 cx3 p pos l = getRightIndex (opAt c1 c2 cx3 (permAt p pos)) l := by
  unfold tpGetRightIndex
  match permAt p pos with
  | some 0 => rfl
  | some 1 => rfl
  | some 2 => rfl
  | some (n + 3) => cases l <;> rfl
  | none => cases l <;> rfl

theorem mem_stripeFor_iff (retained : ℕ → Bool) (c1 c2 cx3 : BlockMap) (outer : ℕ × ℕ) (p : ℕ)
    (s : Stripe) :
    s ∈ stripeFor retained c1 c2 cx3 outer p ↔
      ∃ b1 b2, s = (p, outer.2, b1, b2, outer.1) ∧
        tpGetRightIndex c1 c2 cx3 p 0 (some outer.2) = some b1 ∧
        tpGetLeftIndex c1 c2 cx3 p 2 (some outer.1) = some b2 ∧
        tpGetRightIndex c1 c2 cx3 p 1 (some b1) = some b2 ∧
        (retained outer.2 || retained b1 || retained b2 || retained outer.1) = true := by
  unfold stripeFor
  dsimp only
  cases h1 : tpGetRightIndex c1 c2 cx3 p 0 (some outer.2) with
  | none => simp
  | some b1 =>
    cases h2 : tpGetLeftIndex c1 c2 cx3 p 2 (some outer.1) with
    | none => simp
    | some b2 =>
      simp only [Option.isSome_some, Bool.and_true, beq_iff_eq, Option.some.injEq]
      by_cases hc : tpGetRightIndex c1 c2 cx3 p 1 (some b1) = some b2
      · rw [if_pos hc]
        by_cases hr : (retained outer.2 || retained b1 || retained b2 || retained outer.1) = true
        · rw [if_pos hr, List.mem_singleton]
          constructor
          · intro e; exact ⟨b1, b2, e, rfl, rfl, hc, hr⟩
          · rintro ⟨b1', b2', e, rfl, rfl, -, -⟩; exact e
        · rw [if_neg hr]
          constructor
          · intro h; cases h
          · rintro ⟨b1', b2', -, rfl, rfl, -, hr'⟩; exact absurd hr' hr
      · rw [if_neg hc]
        constructor
        · intro h; cases h
        · rintro ⟨b1', b2', -, rfl, rfl, hc', -⟩; exact absurd hc' hc

theorem mem_prepare_iff (retained : ℕ → Bool) (c1 c2 cx3 cx4 : BlockMap) (s : Stripe) :
    s ∈ prepare retained c1 c2 cx3 cx4 ↔
      ∃ outer ∈ cx4, ∃ p, p < 6 ∧ s ∈ stripeFor retained c1 c2 cx3 outer p := by
  unfold prepare
  simp only [List.mem_flatMap, List.mem_range]

theorem prepare_nodup (retained : ℕ → Bool) (c1 c2 cx3 cx4 : BlockMap) (h4 : RightUnique cx4) :
    (prepare retained c1 c2 cx3 cx4).Nodup := by
  unfold prepare
  -- a stripe records the right block of its pair of CX4 and its permutation number
  refine nodup_flatMap_of_key _ _ (fun s => s.2.1) Prod.snd
    (List.Pairwise.map _ (fun _ _ h => h) h4) ?_ fun outer _ => ?_
  · intro outer _ s hs
    obtain ⟨p, _, hs⟩ := List.mem_flatMap.mp hs
    obtain ⟨_, _, rfl, -⟩ := (mem_stripeFor_iff ..).mp hs
    rfl
  · refine nodup_flatMap_of_key _ _ Prod.fst id (by rw [List.map_id]; exact List.nodup_range)
      ?_ fun p _ => ?_
    · intro p _ s hs
      obtain ⟨_, _, rfl, -⟩ := (mem_stripeFor_iff ..).mp hs
      rfl
    · unfold stripeFor
      dsimp only
      split_ifs
      · split
        · split_ifs
          · exact List.nodup_singleton _
          · exact List.nodup_nil
        · exact List.nodup_nil
      · exact List.nodup_nil

/-- `TwoParticleGF::prepare` SELECTS EXACTLY THE CLOSING CHAINS OF BLOCKS, EACH ONCE (C02,
`world_stripes_complete`).  `c1`, `c2`, `cx3`, `cx4`: the contents of the block bimaps of `C1`, `C2`,
`CX3`, `CX4` as lists of `(LeftIndex, RightIndex)` pairs; the hypotheses are what
`bimap<set_of, set_of>` guarantees (for `cx4` only the right view the loop iterates over is needed).
`(p, b0, b1, b2, b3)` with `bk = LeftIndices[k]`; `O_{p,k}` is the operator `permutations3[p].perm[k]`
(`0 ↦ C1, 1 ↦ C2, 2 ↦ CX3`). -/
theorem stripes_selected_exactly (retained : ℕ → Bool) (c1 c2 cx3 cx4 : BlockMap)
    (h1 : IsBimap c1) (h2 : IsBimap c2) (h3 : IsBimap cx3) (h4 : RightUnique cx4) :
    (prepare retained c1 c2 cx3 cx4).Nodup ∧
    ∀ p b0 b1 b2 b3, (p, b0, b1, b2, b3) ∈ prepare retained c1 c2 cx3 cx4 ↔
      p < 6 ∧ (b0, b1) ∈ opAt c1 c2 cx3 (permAt p 0) ∧ (b1, b2) ∈ opAt c1 c2 cx3 (permAt p 1) ∧
        (b2, b3) ∈ opAt c1 c2 cx3 (permAt p 2) ∧ (b3, b0) ∈ cx4 ∧
        (retained b0 = true ∨ retained b1 = true ∨ retained b2 = true ∨ retained b3 = true) := by
  refine ⟨prepare_nodup retained c1 c2 cx3 cx4 h4, fun p b0 b1 b2 b3 => ?_⟩
  have hb : ∀ k, IsBimap (opAt c1 c2 cx3 (permAt p k)) := fun k => isBimap_opAt c1 c2 cx3 h1 h2 h3 _
  rw [mem_prepare_iff]
  constructor
  · rintro ⟨outer, ho, p', hp', hs⟩
    obtain ⟨b1', b2', e, g1, g2, g3, hr⟩ := (mem_stripeFor_iff ..).mp hs
    simp only [Prod.mk.injEq] at e
    obtain ⟨rfl, rfl, rfl, rfl, rfl⟩ := e
    rw [tpGetRightIndex_eq, getRightIndex_eq_some_iff _ (hb 0).1] at g1
    rw [tpGetLeftIndex_eq, getLeftIndex_eq_some_iff _ (hb 2).2] at g2
    rw [tpGetRightIndex_eq, getRightIndex_eq_some_iff _ (hb 1).1] at g3
    refine ⟨hp', g1, g3, g2, ho, ?_⟩
    simpa only [Bool.or_eq_true, or_assoc] using hr
  · rintro ⟨hp, g1, g3, g2, ho, hr⟩
    refine ⟨(b3, b0), ho, p, hp, (mem_stripeFor_iff ..).mpr ⟨b1, b2, rfl, ?_, ?_, ?_, ?_⟩⟩
    · rw [tpGetRightIndex_eq, getRightIndex_eq_some_iff _ (hb 0).1]; exact g1
    · rw [tpGetLeftIndex_eq, getLeftIndex_eq_some_iff _ (hb 2).2]; exact g2
    · rw [tpGetRightIndex_eq, getRightIndex_eq_some_iff _ (hb 1).1]; exact g3
    · simpa only [Bool.or_eq_true, or_assoc] using hr

/-- The hypothesis cannot be dropped for the loop AS AN ALGORITHM: if a left block could occur twice in
`C1`'s map (a multimap), `getRightIndex` only ever returns the first partner, and the closing chain
`<0|C1|2><2|C2|3><3|CX3|4><4|CX4|0>` (permutation `p = 0`) gets no part.  (Not reachable in the library:
the bimap type makes both sides keys, and a field operator maps a block to at most one block.) -/
theorem stripes_need_unique_keys :
    prepare (fun _ => true) [(0, 1), (0, 2)] [(2, 3)] [(3, 4)] [(4, 0)] = [] ∧
      (0, 2) ∈ opAt [(0, 1), (0, 2)] [(2, 3)] [(3, 4)] (permAt 0 0) ∧
      (2, 3) ∈ opAt [(0, 1), (0, 2)] [(2, 3)] [(3, 4)] (permAt 0 1) ∧
      (3, 4) ∈ opAt [(0, 1), (0, 2)] [(2, 3)] [(3, 4)] (permAt 0 2) := by
  decide

section Sum
open Pomerol.Spec.Chi4Refine
open Pomerol.Model.Chi4Part (SpMat)
open Pomerol.Spec.GFRefine (Basis CoversBlocks)
variable {nB : ℕ} {sz : Fin nB → ℕ}

noncomputable def quadVal (g : Fin nB → Fin nB → Fin nB → Fin nB → ℂ) (q : ℕ × ℕ × ℕ × ℕ) : ℂ :=
  if h : q.1 < nB ∧ q.2.1 < nB ∧ q.2.2.1 < nB ∧ q.2.2.2 < nB then
    g ⟨q.1, h.1⟩ ⟨q.2.1, h.2.1⟩ ⟨q.2.2.1, h.2.2.1⟩ ⟨q.2.2.2, h.2.2.2⟩
  else 0

theorem quadVal_fin (g : Fin nB → Fin nB → Fin nB → Fin nB → ℂ) (b0 b1 b2 b3 : Fin nB) :
    quadVal g (b0.1, b1.1, b2.1, b3.1) = g b0 b1 b2 b3 := by
  unfold quadVal
  rw [dif_pos ⟨b0.2, b1.2, b2.2, b3.2⟩]

theorem sum_quads (Q : List (ℕ × ℕ × ℕ × ℕ)) (hnd : Q.Nodup)
    (g : Fin nB → Fin nB → Fin nB → Fin nB → ℂ)
    (hz : ∀ b0 b1 b2 b3 : Fin nB, (b0.1, b1.1, b2.1, b3.1) ∉ Q → g b0 b1 b2 b3 = 0) :
    (Q.map (quadVal g)).sum = ∑ b0, ∑ b1, ∑ b2, ∑ b3, g b0 b1 b2 b3 := by
  let e : Fin nB × Fin nB × Fin nB × Fin nB ↪ ℕ × ℕ × ℕ × ℕ :=
    ⟨fun q => (q.1.1, q.2.1.1, q.2.2.1.1, q.2.2.2.1), fun q q' h => by
      simp only [Prod.mk.injEq] at h
      exact Prod.ext (Fin.ext h.1) (Prod.ext (Fin.ext h.2.1)
        (Prod.ext (Fin.ext h.2.2.1) (Fin.ext h.2.2.2)))⟩
  rw [sum_list_eq_sum_coded e Q hnd]
  · simp only [Fintype.sum_prod_type]
    exact Finset.sum_congr rfl fun b0 _ => Finset.sum_congr rfl fun b1 _ =>
      Finset.sum_congr rfl fun b2 _ => Finset.sum_congr rfl fun b3 _ => quadVal_fin g b0 b1 b2 b3
  · intro q _ hq
    unfold quadVal
    rw [dif_neg]
    exact fun h => hq
      ⟨(⟨q.1, h.1⟩, ⟨q.2.1, h.2.1⟩, ⟨q.2.2.1, h.2.2.1⟩, ⟨q.2.2.2, h.2.2.2⟩), rfl⟩
  · rintro ⟨b0, b1, b2, b3⟩ hq
    exact (quadVal_fin g b0 b1 b2 b3).trans (hz b0 b1 b2 b3 hq)

/-- the `p`-th entry of the table of orderings of `Spec/Chi4.lean` (which IS the library's
`permutations3`: `Bridge.chi4_perms`) -/
def permEntry (p : ℕ) : (Fin 3 → Fin 3) × ℤ := perms3.getD p (![0, 1, 2], 1)

def permFn (p : Fin 6) : Fin 3 → Fin 3 := (permEntry p.1).1

/-- the extracted `permutations3`, which the model of `prepare` reads, agrees with `perms3` -/
theorem permAt_permFn : ∀ (p : Fin 6) (k : Fin 3), permAt p.1 k.1 = some (permFn p k).1 := by
  decide

theorem opAt_fin (bm : Fin 3 → BlockMap) (k : Fin 3) :
    opAt (bm 0) (bm 1) (bm 2) (some k.1) = bm k := by
  fin_cases k <;> rfl

/-- what the part created for the stripe `(p, b0, b1, b2, b3)` accumulates: the part gets the blocks
`OperatorPartAtPosition(p,0,b0) = <b0|O_{p,0}|b1>` (row-major copy `R`), `<b1|O_{p,1}|b2>` (column-major
copy `C`), `<b2|O_{p,2}|b3>` (row-major), `CX4.getPartFromLeftIndex(b3) = <b3|CX4|b0>` (column-major) and
the Hamiltonian / density-matrix parts of `b0, b1, b2, b3`; the frequencies are permuted with the
operators -/
noncomputable def stripeParts (d : EigenData (Basis sz)) (z : Fin 3 → ℂ)
    (R C : Fin 3 → Fin nB → Fin nB → SpMat ℂ) (CX : Fin nB → Fin nB → SpMat ℂ) (p : Fin 6)
    (b0 b1 b2 b3 : Fin nB) : ℂ :=
  partValue d (z (permFn p 0)) (z (permFn p 1)) (z (permFn p 2)) b0 b1 b2 b3
    (R (permFn p 0) b0 b1) (C (permFn p 1) b1 b2) (R (permFn p 2) b2 b3) (CX b3 b0)

noncomputable def stripeValue (d : EigenData (Basis sz)) (z : Fin 3 → ℂ)
    (R C : Fin 3 → Fin nB → Fin nB → SpMat ℂ) (CX : Fin nB → Fin nB → SpMat ℂ) (s : Stripe) : ℂ :=
  if h : s.1 < 6 then quadVal (stripeParts d z R C CX ⟨s.1, h⟩) s.2 else 0

/-- the setting of the world-stripe theorems: `O 0, O 1, O 2, X` the matrices of `C1, C2, CX3, CX4`,
every block stored in compressed form (`R` row-major, `C`/`CX` column-major), `bm k` / `cx4` their block
bimaps, which list at least all non-trivial blocks -/
structure StripeSetting (O : Fin 3 → Matrix (Basis sz) (Basis sz) ℂ)
    (X : Matrix (Basis sz) (Basis sz) ℂ) (R C : Fin 3 → Fin nB → Fin nB → SpMat ℂ)
    (CX : Fin nB → Fin nB → SpMat ℂ) (bm : Fin 3 → BlockMap) (cx4 : BlockMap) : Prop where
  rowMajor : ∀ k b b', RowMajorOf (R k b b') (blockOf (O k) b b')
  colMajor : ∀ k b b', ColMajorOf (C k b b') (blockOf (O k) b b')
  colMajorX : ∀ b b', ColMajorOf (CX b b') (blockOf X b b')
  bimap : ∀ k, IsBimap (bm k)
  rightUnique : RightUnique cx4
  covers : ∀ k, CoversBlocks (bm k) (O k)
  coversX : CoversBlocks cx4 X

theorem stripeParts_eq_zero (d : EigenData (Basis sz)) (O : Fin 3 → Matrix (Basis sz) (Basis sz) ℂ)
    (X : Matrix (Basis sz) (Basis sz) ℂ) (z : Fin 3 → ℂ)
    (R C : Fin 3 → Fin nB → Fin nB → SpMat ℂ) (CX : Fin nB → Fin nB → SpMat ℂ)
    (bm : Fin 3 → BlockMap) (cx4 : BlockMap) (S : StripeSetting O X R C CX bm cx4) (p : Fin 6)
    (b0 b1 b2 b3 : Fin nB)
    (h : ¬ ((b0.1, b1.1) ∈ bm (permFn p 0) ∧ (b1.1, b2.1) ∈ bm (permFn p 1) ∧
      (b2.1, b3.1) ∈ bm (permFn p 2) ∧ (b3.1, b0.1) ∈ cx4)) :
    stripeParts d z R C CX p b0 b1 b2 b3 = 0 := by
  unfold stripeParts
  rw [partValue_eq d _ _ _ b0 b1 b2 b3 (O (permFn p 0)) (O (permFn p 1)) (O (permFn p 2)) X _ _ _ _
    (S.rowMajor _ _ _) (S.colMajor _ _ _) (S.rowMajor _ _ _) (S.colMajorX _ _)]
  refine Finset.sum_eq_zero fun i1 _ => Finset.sum_eq_zero fun i2 _ =>
    Finset.sum_eq_zero fun i3 _ => Finset.sum_eq_zero fun i4 _ => ?_
  by_cases g0 : (b0.1, b1.1) ∈ bm (permFn p 0)
  · by_cases g1 : (b1.1, b2.1) ∈ bm (permFn p 1)
    · by_cases g2 : (b2.1, b3.1) ∈ bm (permFn p 2)
      · have g3 : (b3.1, b0.1) ∉ cx4 := fun g3 => h ⟨g0, g1, g2, g3⟩
        rw [S.coversX.entry_eq_zero g3 i4 i1]; ring
      · rw [(S.covers _).entry_eq_zero g2 i3 i4]; ring
    · rw [(S.covers _).entry_eq_zero g1 i2 i3]; ring
  · rw [(S.covers _).entry_eq_zero g0 i1 i2]; ring

def stripesOf (p : ℕ) (l : List Stripe) : List Stripe := l.filter fun s => s.1 == p

theorem mem_stripesOf {p : ℕ} {l : List Stripe} {s : Stripe} :
    s ∈ stripesOf p l ↔ s ∈ l ∧ s.1 = p := by
  unfold stripesOf
  rw [List.mem_filter, beq_iff_eq]

theorem stripeValue_eq (d : EigenData (Basis sz)) (z : Fin 3 → ℂ)
    (R C : Fin 3 → Fin nB → Fin nB → SpMat ℂ) (CX : Fin nB → Fin nB → SpMat ℂ) (p : Fin 6)
    (s : Stripe) (h : s.1 = p.1) :
    stripeValue d z R C CX s = quadVal (stripeParts d z R C CX p) s.2 := by
  unfold stripeValue
  rw [dif_pos (h ▸ p.2), show (⟨s.1, h ▸ p.2⟩ : Fin 6) = p from Fin.ext h]

/-- THE SELECTED STRIPES OF ONE PERMUTATION ADD UP TO THE ORDERED LEHMANN SUM (nothing truncated).  The
block quadruples that get no part contribute nothing, hence (`parts_enumeration_refines_ordered_lehmann`)
the result. -/
theorem selected_stripes_sum_to_ordered_lehmann (d : EigenData (Basis sz))
    (O : Fin 3 → Matrix (Basis sz) (Basis sz) ℂ) (X : Matrix (Basis sz) (Basis sz) ℂ)
    (z : Fin 3 → ℂ) (R C : Fin 3 → Fin nB → Fin nB → SpMat ℂ) (CX : Fin nB → Fin nB → SpMat ℂ)
    (bm : Fin 3 → BlockMap) (cx4 : BlockMap) (S : StripeSetting O X R C CX bm cx4) (p : Fin 6) :
    ((stripesOf p.1 (prepare (fun _ => true) (bm 0) (bm 1) (bm 2) cx4)).map
        (stripeValue d z R C CX)).sum
      = ∑ b0, ∑ b1, ∑ b2, ∑ b3, stripeParts d z R C CX p b0 b1 b2 b3 ∧
    ∑ b0, ∑ b1, ∑ b2, ∑ b3, stripeParts d z R C CX p b0 b1 b2 b3
      = d.orderedLehmann (O (permFn p 0)) (O (permFn p 1)) (O (permFn p 2)) X
          (z (permFn p 0)) (z (permFn p 1)) (z (permFn p 2)) := by
  constructor
  · obtain ⟨hnd, hmem⟩ := stripes_selected_exactly (fun _ => true) (bm 0) (bm 1) (bm 2) cx4
      (S.bimap 0) (S.bimap 1) (S.bimap 2) S.rightUnique
    set L := prepare (fun _ => true) (bm 0) (bm 1) (bm 2) cx4
    have hval : (stripesOf p.1 L).map (stripeValue d z R C CX)
        = ((stripesOf p.1 L).map Prod.snd).map (quadVal (stripeParts d z R C CX p)) := by
      rw [List.map_map]
      exact List.map_congr_left fun s hs => stripeValue_eq d z R C CX p s (mem_stripesOf.mp hs).2
    rw [hval]
    apply sum_quads
    · -- no quadruple twice
      refine List.Nodup.map_on ?_ (hnd.filter _)
      intro s hs s' hs' e
      exact Prod.ext ((mem_stripesOf.mp hs).2.trans (mem_stripesOf.mp hs').2.symm) e
    · -- a quadruple that is not selected does not close
      intro b0 b1 b2 b3 hn
      apply stripeParts_eq_zero d O X z R C CX bm cx4 S
      intro hchain
      apply hn
      rw [List.mem_map]
      refine ⟨(p.1, b0.1, b1.1, b2.1, b3.1), ?_, rfl⟩
      refine mem_stripesOf.mpr ⟨(hmem _ _ _ _ _).mpr ⟨p.2, ?_, ?_, ?_, hchain.2.2.2, Or.inl rfl⟩, rfl⟩
      · rw [show permAt p.1 0 = some (permFn p 0).1 from permAt_permFn p 0, opAt_fin]; exact hchain.1
      · rw [show permAt p.1 1 = some (permFn p 1).1 from permAt_permFn p 1, opAt_fin]; exact hchain.2.1
      · rw [show permAt p.1 2 = some (permFn p 2).1 from permAt_permFn p 2, opAt_fin]; exact hchain.2.2.1
  · exact parts_enumeration_refines_ordered_lehmann d (O (permFn p 0)) (O (permFn p 1))
      (O (permFn p 2)) X (R (permFn p 0)) (C (permFn p 1)) (R (permFn p 2)) CX (S.rowMajor _) (S.colMajor _)
      (S.rowMajor _) S.colMajorX
      _ _ _

theorem sum_by_permutation (f : Stripe → ℂ) :
    ∀ l : List Stripe, (∀ s ∈ l, s.1 < 6) →
      (l.map f).sum = ∑ p : Fin 6, ((stripesOf p.1 l).map f).sum := by
  intro l
  induction l with
  | nil => intro _; simp [stripesOf]
  | cons s l ih =>
    intro h
    have hs : s.1 < 6 := h s List.mem_cons_self
    rw [List.map_cons, List.sum_cons, ih fun t ht => h t (List.mem_cons_of_mem _ ht)]
    have hstep : ∀ p : Fin 6, ((stripesOf p.1 (s :: l)).map f).sum
        = (if p = ⟨s.1, hs⟩ then f s else 0) + ((stripesOf p.1 l).map f).sum := by
      intro p
      unfold stripesOf
      rw [List.filter_cons]
      by_cases hp : s.1 = p.1
      · rw [if_pos (beq_iff_eq.mpr hp), if_pos (Fin.ext hp.symm), List.map_cons, List.sum_cons]
      · rw [if_neg (fun e => hp (beq_iff_eq.mp e)), if_neg (fun e => hp (by rw [e])), zero_add]
    rw [Finset.sum_congr rfl fun p _ => hstep p, Finset.sum_add_distrib, Finset.sum_ite_eq',
      if_pos (Finset.mem_univ _)]

theorem chiLehmann_eq_sum_fin {ι : Type} [Fintype ι] (d : EigenData ι)
    (O : Fin 3 → Matrix ι ι ℂ) (X : Matrix ι ι ℂ) (z : Fin 3 → ℂ) :
    d.chiLehmann O X z = ∑ p : Fin 6, ((permEntry p.1).2 : ℂ) *
      d.orderedLehmann (O (permFn p 0)) (O (permFn p 1)) (O (permFn p 2)) X
        (z (permFn p 0)) (z (permFn p 1)) (z (permFn p 2)) := by
  unfold EigenData.chiLehmann
  have hp : perms3 = List.ofFn fun p : Fin 6 => permEntry p.1 := rfl
  rw [hp, List.map_ofFn, List.sum_ofFn]
  rfl

/-- THE PARTS CREATED BY `TwoParticleGF::prepare` COMPUTE THE TWO-PARTICLE GREEN'S FUNCTION: the
signed sum (sign of `permutations3[p]`) over ALL selected stripes is `d.chiLehmann O X z`, which equals
the definition `d.chiDef O X z` at fermionic frequencies (`chi_lehmann`). -/
theorem selected_stripes_sum_to_chi (d : EigenData (Basis sz))
    (O : Fin 3 → Matrix (Basis sz) (Basis sz) ℂ) (X : Matrix (Basis sz) (Basis sz) ℂ)
    (z : Fin 3 → ℂ) (R C : Fin 3 → Fin nB → Fin nB → SpMat ℂ) (CX : Fin nB → Fin nB → SpMat ℂ)
    (bm : Fin 3 → BlockMap) (cx4 : BlockMap) (S : StripeSetting O X R C CX bm cx4) :
    ((prepare (fun _ => true) (bm 0) (bm 1) (bm 2) cx4).map fun s =>
        ((permEntry s.1).2 : ℂ) * stripeValue d z R C CX s).sum
      = d.chiLehmann O X z := by
  rw [chiLehmann_eq_sum_fin, sum_by_permutation]
  · refine Finset.sum_congr rfl fun p _ => ?_
    obtain ⟨e1, e2⟩ := selected_stripes_sum_to_ordered_lehmann d O X z R C CX bm cx4 S p
    rw [← e2, ← e1, ← List.sum_map_mul_left]
    refine congrArg List.sum (List.map_congr_left fun s hs => ?_)
    rw [(mem_stripesOf.mp hs).2]
  · intro s hs
    obtain ⟨p, b0, b1, b2, b3⟩ := s
    exact ((stripes_selected_exactly (fun _ => true) (bm 0) (bm 1) (bm 2) cx4
      (S.bimap 0) (S.bimap 1) (S.bimap 2) S.rightUnique).2 p b0 b1 b2 b3).mp hs |>.1

end Sum

/-! The value does not depend on the block structure.  A block structure is a numbering
`e : ι ≃ Σ b, Fin (sz b)` of the eigenstates by (block, index within the block).  The Lehmann sums run over
all eigenstates, so they do not see the numbering. -/

section Reindex
open Pomerol.Spec.Chi4Refine
open Pomerol.Model.Chi4Part (SpMat)
open Pomerol.Spec.GFRefine (Basis CoversBlocks)
variable {ι κ : Type} [Fintype ι] [Fintype κ]

def reindexData (d : EigenData ι) (e : ι ≃ κ) : EigenData κ := ⟨d.β, d.hβ, fun k => d.E (e.symm k)⟩

theorem reindexData_w (d : EigenData ι) (e : ι ≃ κ) (k : κ) :
    (reindexData d e).w k = d.w (e.symm k) := by
  unfold EigenData.w EigenData.Z reindexData
  dsimp only
  rw [Fintype.sum_equiv e.symm (fun k => Real.exp (-d.β * d.E (e.symm k)))
    (fun n => Real.exp (-d.β * d.E n)) (fun _ => rfl)]

theorem orderedLehmann_reindex (d : EigenData ι) (e : ι ≃ κ) (A B Cc X : Matrix ι ι ℂ)
    (za zb zc : ℂ) :
    (reindexData d e).orderedLehmann (Matrix.reindex e e A) (Matrix.reindex e e B)
        (Matrix.reindex e e Cc) (Matrix.reindex e e X) za zb zc
      = d.orderedLehmann A B Cc X za zb zc := by
  unfold EigenData.orderedLehmann
  refine Fintype.sum_equiv e.symm _ _ fun k1 => ?_
  refine Fintype.sum_equiv e.symm _ _ fun k2 => ?_
  refine Fintype.sum_equiv e.symm _ _ fun k3 => ?_
  refine Fintype.sum_equiv e.symm _ _ fun k4 => ?_
  simp only [reindexData_w, Matrix.reindex_apply, Matrix.submatrix_apply]
  rfl

theorem chiLehmann_reindex (d : EigenData ι) (e : ι ≃ κ) (O : Fin 3 → Matrix ι ι ℂ)
    (X : Matrix ι ι ℂ) (z : Fin 3 → ℂ) :
    (reindexData d e).chiLehmann (fun k => Matrix.reindex e e (O k)) (Matrix.reindex e e X) z
      = d.chiLehmann O X z := by
  unfold EigenData.chiLehmann
  refine congrArg List.sum (List.map_congr_left fun p _ => ?_)
  rw [orderedLehmann_reindex]

/-- FOR ANY BLOCK STRUCTURE: `e` is any numbering of the eigenstates by blocks for which the
hypotheses of `selected_stripes_sum_to_chi` hold; the result, `d.orderedLehmann` / `d.chiLehmann`,
mentions neither the blocks nor the numbering. -/
theorem selected_stripes_sum_partition_free {nB : ℕ} {sz : Fin nB → ℕ} (d : EigenData ι)
    (O : Fin 3 → Matrix ι ι ℂ) (X : Matrix ι ι ℂ) (z : Fin 3 → ℂ) (e : ι ≃ Basis sz)
    (R C : Fin 3 → Fin nB → Fin nB → SpMat ℂ) (CX : Fin nB → Fin nB → SpMat ℂ)
    (bm : Fin 3 → BlockMap) (cx4 : BlockMap)
    (S : StripeSetting (fun k => Matrix.reindex e e (O k)) (Matrix.reindex e e X) R C CX bm cx4) :
    (∀ p : Fin 6,
      ((stripesOf p.1 (prepare (fun _ => true) (bm 0) (bm 1) (bm 2) cx4)).map
          (stripeValue (reindexData d e) z R C CX)).sum
        = d.orderedLehmann (O (permFn p 0)) (O (permFn p 1)) (O (permFn p 2)) X
            (z (permFn p 0)) (z (permFn p 1)) (z (permFn p 2))) ∧
    ((prepare (fun _ => true) (bm 0) (bm 1) (bm 2) cx4).map fun s =>
        ((permEntry s.1).2 : ℂ) * stripeValue (reindexData d e) z R C CX s).sum
      = d.chiLehmann O X z := by
  constructor
  · intro p
    obtain ⟨e1, e2⟩ := selected_stripes_sum_to_ordered_lehmann (reindexData d e)
      (fun k => Matrix.reindex e e (O k)) (Matrix.reindex e e X) z R C CX bm cx4 S p
    rw [e1, e2, orderedLehmann_reindex]
  · rw [selected_stripes_sum_to_chi (reindexData d e) (fun k => Matrix.reindex e e (O k))
      (Matrix.reindex e e X) z R C CX bm cx4 S, chiLehmann_reindex]

end Reindex

end Pomerol.Spec.Chi4PrepareSpec
