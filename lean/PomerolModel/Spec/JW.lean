/-
  The Jordan-Wigner representation: the model's action on Fock states (`actOp`, `actMono`,
  `actPoly`, `matrixElement`) is the action of a representation of the CAR on the free module
  over Fock states.
-/
import Mathlib.LinearAlgebra.Finsupp.LSum
import Mathlib.Algebra.Module.LinearMap.End
import Mathlib.Tactic.Ring
import Mathlib.Tactic.Abel
import PomerolModel.Spec.NormalizeSem

namespace Pomerol.Spec
open Pomerol.Model

theorem testBit_flipBit (s i j : Nat) :
    (flipBit s i).testBit j = (if i = j then !s.testBit j else s.testBit j) := by
  unfold flipBit
  rw [Nat.testBit_xor, Nat.one_shiftLeft, Nat.testBit_two_pow]
  by_cases h : i = j
  · simp [h]
  · simp [h]

theorem flipBit_flipBit (s i : Nat) : flipBit (flipBit s i) i = s := by
  unfold flipBit
  rw [Nat.xor_assoc, Nat.xor_self, Nat.xor_zero]

theorem flipBit_comm (s i j : Nat) : flipBit (flipBit s i) j = flipBit (flipBit s j) i := by
  unfold flipBit
  rw [Nat.xor_assoc, Nat.xor_assoc, Nat.xor_comm (1 <<< i)]

theorem lowParity_flipBit (s i j : Nat) :
    lowParity (flipBit s i) j = (if i < j then !lowParity s j else lowParity s j) := by
  induction j with
  | zero => simp [lowParity]
  | succ j ih =>
    simp only [lowParity, ih, testBit_flipBit]
    rcases Nat.lt_trichotomy i j with h | h | h
    · have h1 : i ≠ j := Nat.ne_of_lt h
      have h2 : i < j + 1 := Nat.lt_succ_of_lt h
      simp only [h, h1, h2, if_true, if_false]
      generalize lowParity s j = x; generalize s.testBit j = y
      cases x <;> cases y <;> rfl
    · subst h
      simp only [Nat.lt_irrefl, Nat.lt_succ_self, if_true, if_false]
      generalize lowParity s i = x; generalize s.testBit i = y
      cases x <;> cases y <;> rfl
    · have h1 : ¬ i < j := Nat.lt_asymm h
      have h2 : i ≠ j := Nat.ne_of_gt h
      have h3 : ¬ i < j + 1 := Nat.not_lt_of_le h
      simp only [h1, h2, h3, if_false]

theorem actOp_some {o : Op} {s s' : Nat} {n : Bool} (h : actOp o s = some (s', n)) :
    o.ann = s.testBit o.idx ∧ s' = flipBit s o.idx := by
  unfold actOp at h
  by_cases hc : o.ann = s.testBit o.idx
  · simp only [hc, if_true, Option.some.injEq, Prod.mk.injEq] at h
    exact ⟨hc, h.1.symm⟩
  · simp [hc] at h

theorem actOp_of {o : Op} {s : Nat} (h : o.ann = s.testBit o.idx) :
    actOp o s = some (flipBit s o.idx, lowParity s o.idx) := by
  simp [actOp, h]

theorem actMono_cons_some {o : Op} {rest : Mono} {s s' : Nat} {neg : Bool}
    (h : actMono (o :: rest) s = some (s', neg)) :
    ∃ s1 n1 n2, actMono rest s = some (s1, n1) ∧ actOp o s1 = some (s', n2) := by
  simp only [actMono] at h
  split at h
  · cases h
  · next s1 n1 h1 =>
    split at h
    · cases h
    · next s2 n2 h2 =>
      cases h
      exact ⟨s1, n1, n2, h1, h2⟩

theorem actMono_cons_of_some {o : Op} {rest : Mono} {s s1 s2 : Nat} {n1 n2 : Bool}
    (h1 : actMono rest s = some (s1, n1)) (h2 : actOp o s1 = some (s2, n2)) :
    actMono (o :: rest) s = some (s2, n1 != n2) := by
  simp [actMono, h1, h2]

theorem actMono_append (m1 m2 : Mono) (s : Nat) :
    actMono (m1 ++ m2) s
      = match actMono m2 s with
        | none => none
        | some (s1, n1) =>
          match actMono m1 s1 with
          | none => none
          | some (s2, n2) => some (s2, n1 != n2) := by
  induction m1 with
  | nil => cases h : actMono m2 s <;> simp [h, actMono]
  | cons o m1 ih =>
    rw [List.cons_append, actMono, ih]
    cases actMono m2 s with
    | none => rfl
    | some q =>
      obtain ⟨s1, n1⟩ := q
      simp only [actMono]
      cases actMono m1 s1 with
      | none => rfl
      | some q1 =>
        obtain ⟨s2, n2⟩ := q1
        simp only
        cases actOp o s2 with
        | none => rfl
        | some q2 => simp only [Bool.bne_assoc]

theorem actMono_append_some (m1 m2 : Mono) (s s' : Nat) (neg : Bool)
    (h : actMono (m1 ++ m2) s = some (s', neg)) :
    ∃ s1 n1 n2, actMono m2 s = some (s1, n1) ∧ actMono m1 s1 = some (s', n2) := by
  rw [actMono_append] at h
  split at h
  · cases h
  · next s1 n1 h2 =>
    split at h
    · cases h
    · next s2 n2 h1 =>
      cases h
      exact ⟨s1, n1, n2, h2, h1⟩

theorem actMono_append_of_some (m1 m2 : Mono) (s s1 s2 : Nat) (n1 n2 : Bool)
    (h1 : actMono m2 s = some (s1, n1)) (h2 : actMono m1 s1 = some (s2, n2)) :
    ∃ neg, actMono (m1 ++ m2) s = some (s2, neg) :=
  ⟨n1 != n2, by simp only [actMono_append, h1, h2]⟩

section JW
variable (K : Type) [CommRing K]

def sgn (b : Bool) : K := if b then -1 else 1

variable {K} in
theorem sgn_not (b : Bool) : sgn K (!b) = - sgn K b := by cases b <;> simp [sgn]

variable {K} in
theorem sgn_mul_self (b : Bool) : sgn K b * sgn K b = 1 := by cases b <;> simp [sgn]

variable {K} in
theorem sgn_bne (a b : Bool) : sgn K (a != b) = sgn K a * sgn K b := by
  cases a <;> cases b <;> simp [sgn]

noncomputable def jwVec (o : Op) (s : Nat) : Nat →₀ K :=
  match actOp o s with
  | none => 0
  | some (s', neg) => Finsupp.single s' (if neg then -1 else 1)

theorem jwVec_eq (o : Op) (s : Nat) :
    jwVec K o s = if o.ann = s.testBit o.idx then
      Finsupp.single (flipBit s o.idx) (sgn K (lowParity s o.idx)) else 0 := by
  unfold jwVec actOp sgn
  by_cases h : o.ann = s.testBit o.idx
  · simp only [h, if_true]
  · simp only [h, if_false]

/-- `LinearMap.id.smulRight v` is `LinearMap.toSpanSingleton K _ v`, i.e. `a ↦ a • v`. -/
noncomputable def jwOp (o : Op) : Module.End K (Nat →₀ K) :=
  Finsupp.lsum K (fun s => (LinearMap.id : K →ₗ[K] K).smulRight (jwVec K o s))

theorem jwOp_single (o : Op) (s : Nat) (a : K) :
    jwOp K o (Finsupp.single s a) = a • jwVec K o s := by
  simp [jwOp]

theorem jwOp_jwOp_single (o o' : Op) (s : Nat) (a : K) :
    jwOp K o (jwOp K o' (Finsupp.single s a)) =
      if o'.ann = s.testBit o'.idx ∧ o.ann = (flipBit s o'.idx).testBit o.idx then
        Finsupp.single (flipBit (flipBit s o'.idx) o.idx)
          (a * sgn K (lowParity s o'.idx) * sgn K (lowParity (flipBit s o'.idx) o.idx))
      else 0 := by
  rw [jwOp_single, jwVec_eq]
  by_cases h1 : o'.ann = s.testBit o'.idx
  · rw [if_pos h1, Finsupp.smul_single, jwOp_single, jwVec_eq]
    by_cases h2 : o.ann = (flipBit s o'.idx).testBit o.idx
    · rw [if_pos h2, if_pos ⟨h1, h2⟩, Finsupp.smul_single]
      simp [mul_assoc]
    · rw [if_neg h2, if_neg (fun h => h2 h.2), smul_zero]
  · rw [if_neg h1, if_neg (fun h => h1 h.1), smul_zero, LinearMap.map_zero]

theorem jw_anticomm_lt (a b : Bool) {i j : Nat} (h : i < j) :
    jwOp K ⟨a, i⟩ * jwOp K ⟨b, j⟩ + jwOp K ⟨b, j⟩ * jwOp K ⟨a, i⟩ = 0 := by
  refine Finsupp.lhom_ext fun s x => ?_
  have h1 : i ≠ j := Nat.ne_of_lt h
  have h2 : ¬ j < i := Nat.lt_asymm h
  simp only [LinearMap.add_apply, Module.End.mul_apply, jwOp_jwOp_single,
    testBit_flipBit, lowParity_flipBit, h, h1, h2, h1.symm, if_true, if_false,
    LinearMap.zero_apply, sgn_not, flipBit_comm s j i]
  by_cases hc : b = s.testBit j ∧ a = s.testBit i
  · rw [if_pos hc, if_pos hc.symm, ← Finsupp.single_add,
      show ∀ u v : K, x * u * v + x * v * -u = 0 from fun u v => by ring, Finsupp.single_zero]
  · rw [if_neg hc, if_neg fun h => hc h.symm, add_zero]

theorem jw_anticomm (a b : Bool) (i j : Nat) :
    jwOp K ⟨a, i⟩ * jwOp K ⟨b, j⟩ + jwOp K ⟨b, j⟩ * jwOp K ⟨a, i⟩ =
      if i = j ∧ a ≠ b then 1 else 0 := by
  rcases Nat.lt_trichotomy i j with h | h | h
  · rw [jw_anticomm_lt K a b h, if_neg fun hc => Nat.ne_of_lt h hc.1]
  · subst h
    refine Finsupp.lhom_ext fun s x => ?_
    simp only [LinearMap.add_apply, Module.End.mul_apply, jwOp_jwOp_single,
      testBit_flipBit, lowParity_flipBit, Nat.lt_irrefl, if_true, if_false, true_and,
      flipBit_flipBit, mul_assoc, sgn_mul_self, mul_one]
    generalize s.testBit i = t
    cases a <;> cases b <;> cases t <;> simp
  · rw [add_comm, jw_anticomm_lt K b a h, if_neg fun hc => Nat.ne_of_gt h hc.1]

/-- THE MODEL'S ACTION SATISFIES THE CAR: the Jordan–Wigner representation -/
noncomputable def jwRep : CARRep K (Module.End K (Nat →₀ K)) where
  c := fun i => jwOp K ⟨true, i⟩
  cd := fun i => jwOp K ⟨false, i⟩
  cc := fun i j => by simpa using jw_anticomm K true true i j
  cdcd := fun i j => by simpa using jw_anticomm K false false i j
  ccd := fun i j => by simpa using jw_anticomm K true false i j

/-- Pauli principle (not a consequence of the CAR when 2 is not invertible in `K`) -/
theorem jw_sq (a : Bool) (i : Nat) : jwOp K ⟨a, i⟩ * jwOp K ⟨a, i⟩ = 0 := by
  refine Finsupp.lhom_ext fun s x => ?_
  simp only [Module.End.mul_apply, jwOp_jwOp_single, testBit_flipBit, if_true,
    LinearMap.zero_apply]
  rw [if_neg]
  rintro ⟨h1, h2⟩
  rw [← h1] at h2
  cases a <;> cases h2

theorem jw_sq_c (i : Nat) : jwOp K ⟨true, i⟩ * jwOp K ⟨true, i⟩ = 0 := jw_sq K true i
theorem jw_sq_cd (i : Nat) : jwOp K ⟨false, i⟩ * jwOp K ⟨false, i⟩ = 0 := jw_sq K false i

theorem jwRep_op (o : Op) : (jwRep K).op o = jwOp K o := by
  obtain ⟨a, i⟩ := o
  cases a <;> rfl

theorem jw_mono_single (m : Mono) (s : Nat) :
    (jwRep K).mono m (Finsupp.single s 1) =
      (match actMono m s with
       | none => 0
       | some (s', neg) => Finsupp.single s' (if neg then (-1 : K) else 1)) := by
  induction m with
  | nil => rfl
  | cons o rest ih =>
    rw [mono_cons, jwRep_op, Module.End.mul_apply, ih, actMono]
    cases actMono rest s with
    | none => exact LinearMap.map_zero _
    | some p =>
      simp only [jwOp_single, jwVec]
      cases actOp o p.1 with
      | none => simp
      | some q =>
        have hsgn : sgn K p.2 * sgn K q.2 = sgn K (p.2 != q.2) := (sgn_bne p.2 q.2).symm
        exact (Finsupp.smul_single _ _ _).trans (congrArg _ hsgn)

end JW

section
variable {K : Type} [CommRing K]

theorem amp_none {m : Mono} {s : Nat} (h : actMono m s = none) :
    (jwRep K).mono m (Finsupp.single s 1) = 0 := by
  rw [jw_mono_single, h]

theorem amp_some {m : Mono} {s s' : Nat} {neg : Bool} (h : actMono m s = some (s', neg)) :
    (jwRep K).mono m (Finsupp.single s 1) = Finsupp.single s' (sgn K neg) := by
  rw [jw_mono_single, h]
  rfl

end

section Poly
variable {K : Type} [CommRing K] [DecidableEq K]
open scoped Pomerol.Spec.Exact

noncomputable def listVec (l : List (Nat × K)) : Nat →₀ K :=
  (l.map fun x => Finsupp.single x.1 x.2).sum

omit [DecidableEq K] in
@[simp] theorem listVec_nil : listVec ([] : List (Nat × K)) = 0 := rfl

omit [DecidableEq K] in
@[simp] theorem listVec_cons (x : Nat × K) (l : List (Nat × K)) :
    listVec (x :: l) = Finsupp.single x.1 x.2 + listVec l := by
  simp [listVec]

omit [DecidableEq K] in
theorem listVec_stateMapAdd (s : Nat) (v : K) (l : List (Nat × K)) :
    listVec (stateMapAdd s v l) = listVec l + Finsupp.single s v := by
  induction l with
  | nil => simp [stateMapAdd]
  | cons x l ih =>
    obtain ⟨s', v'⟩ := x
    unfold stateMapAdd
    by_cases h1 : s = s'
    · subst h1
      simp only [if_true, listVec_cons, Finsupp.single_add]
      abel
    · by_cases h2 : s < s'
      · simp only [h1, h2, if_true, if_false, listVec_cons, zero_add]
        abel
      · simp only [h1, h2, if_false, listVec_cons, ih]
        abel

omit [DecidableEq K] in
theorem mem_keys_stateMapAdd (s : Nat) (v : K) (l : List (Nat × K)) (x : Nat) :
    x ∈ (stateMapAdd s v l).map (·.1) ↔ x = s ∨ x ∈ l.map (·.1) := by
  induction l with
  | nil => simp [stateMapAdd]
  | cons y l ih =>
    unfold stateMapAdd
    split
    · next h => simp only [List.map_cons, List.mem_cons, h, or_self_left]
    · split
      · simp only [List.map_cons, List.mem_cons]
      · simp only [List.map_cons, List.mem_cons, ih, or_left_comm]

omit [DecidableEq K] in
theorem sorted_stateMapAdd (s : Nat) (v : K) (l : List (Nat × K))
    (hl : (l.map (·.1)).Pairwise (· < ·)) :
    ((stateMapAdd s v l).map (·.1)).Pairwise (· < ·) := by
  induction l with
  | nil => simp [stateMapAdd]
  | cons y l ih =>
    obtain ⟨s', v'⟩ := y
    rw [List.map_cons, List.pairwise_cons] at hl
    unfold stateMapAdd
    by_cases h1 : s = s'
    · subst h1
      simp only [if_true, List.map_cons, List.pairwise_cons]
      exact hl
    · by_cases h2 : s < s'
      · simp only [h1, h2, if_true, if_false, List.map_cons, List.pairwise_cons, List.mem_cons]
        refine ⟨?_, hl⟩
        rintro a (rfl | ha)
        · exact h2
        · exact Nat.lt_trans h2 (hl.1 a ha)
      · simp only [h1, h2, if_false, List.map_cons, List.pairwise_cons]
        refine ⟨?_, ih hl.2⟩
        intro a ha
        rcases (mem_keys_stateMapAdd s v l a).mp ha with rfl | ha
        · exact Nat.lt_of_le_of_ne (Nat.le_of_not_lt h2) (Ne.symm h1)
        · exact hl.1 a ha

/-- one iteration of the loop over the terms of the operator in `actRight` -/
def actStep (ket : Nat) (acc : List (Nat × K)) (mc : Mono × K) : List (Nat × K) :=
  match actMono mc.1 ket with
  | none => acc
  | some (bra, neg) =>
    let melem : K := if neg then -1 else 1
    if CoefTest.aboveEps melem then stateMapAdd bra (melem * mc.2) acc else acc

theorem actPoly_eq (p : Poly K) (ket : Nat) :
    actPoly p ket = (p.foldl (actStep ket) []).filter fun x => !decide (x.2 = 0) := rfl

theorem listVec_actStep [Nontrivial K] (ket : Nat) (acc : List (Nat × K)) (mc : Mono × K) :
    listVec (actStep ket acc mc) =
      listVec acc + mc.2 • (jwRep K).mono mc.1 (Finsupp.single ket 1) := by
  rw [jw_mono_single]
  unfold actStep
  cases h : actMono mc.1 ket with
  | none => simp
  | some q =>
    obtain ⟨bra, neg⟩ := q
    have hne : (if neg then (-1 : K) else 1) ≠ 0 := by cases neg <;> simp
    simp only [CoefTest.aboveEps, hne, ne_eq, not_false_eq_true, decide_true, if_true,
      listVec_stateMapAdd, Finsupp.smul_single, smul_eq_mul, mul_comm]

theorem listVec_filter_ne_zero (l : List (Nat × K)) :
    listVec (l.filter fun x => !decide (x.2 = 0)) = listVec l := by
  induction l with
  | nil => rfl
  | cons x l ih =>
    by_cases h : x.2 = 0
    · simp [h, ih]
    · simp [h, ih]

/-- `actRight(ket)` returns the vector `p |ket⟩`.
Requires `1 ≠ 0` in `K` so that the `|sign| > eps` filter is passed. -/
theorem actPoly_sem [Nontrivial K] (p : Poly K) (ket : Nat) :
    listVec (actPoly p ket) = (jwRep K).poly p (Finsupp.single ket 1) := by
  rw [actPoly_eq, listVec_filter_ne_zero, foldl_sem listVec _ _ (listVec_actStep ket), poly_apply,
    listVec_nil, zero_add]

theorem sorted_actStep (ket : Nat) (acc : List (Nat × K)) (mc : Mono × K)
    (h : (acc.map (·.1)).Pairwise (· < ·)) :
    ((actStep ket acc mc).map (·.1)).Pairwise (· < ·) := by
  unfold actStep
  cases actMono mc.1 ket with
  | none => exact h
  | some q =>
    obtain ⟨bra, neg⟩ := q
    dsimp only
    by_cases hc : CoefTest.aboveEps (if neg then (-1 : K) else 1) = true
    · rw [if_pos hc]
      exact sorted_stateMapAdd _ _ _ h
    · rw [if_neg hc]
      exact h

theorem actPoly_sorted (p : Poly K) (ket : Nat) :
    ((actPoly p ket).map (·.1)).Pairwise (· < ·) := by
  rw [actPoly_eq]
  refine List.Pairwise.sublist (List.Sublist.map _ List.filter_sublist) ?_
  exact List.foldlRecOn (motive := fun acc => (acc.map (·.1)).Pairwise (· < ·)) p _ (b := [])
    List.Pairwise.nil fun acc h mc _ => sorted_actStep ket acc mc h

theorem actPoly_nonzero (p : Poly K) (ket : Nat) : ∀ x ∈ actPoly p ket, x.2 ≠ 0 := by
  intro x hx
  rw [actPoly_eq, List.mem_filter] at hx
  simpa using hx.2

omit [DecidableEq K] in
theorem listVec_apply_of_not_mem (l : List (Nat × K)) (s : Nat) (h : s ∉ l.map (·.1)) :
    listVec l s = 0 := by
  induction l with
  | nil => simp
  | cons x l ih =>
    simp only [List.map_cons, List.mem_cons, not_or] at h
    rw [listVec_cons, Finsupp.add_apply, ih h.2, Finsupp.single_apply, if_neg (Ne.symm h.1),
      add_zero]

omit [DecidableEq K] in
theorem listVec_apply_of_sorted (l : List (Nat × K)) (s : Nat)
    (hl : (l.map (·.1)).Pairwise (· < ·)) :
    listVec l s = (match l.find? (fun x => x.1 == s) with
      | some (_, v) => v
      | none => 0) := by
  induction l with
  | nil => simp
  | cons x l ih =>
    rw [List.map_cons, List.pairwise_cons] at hl
    rw [listVec_cons, Finsupp.add_apply, List.find?_cons]
    by_cases h : x.1 = s
    · have hs : s ∉ l.map (·.1) := fun hm => Nat.lt_irrefl s (h ▸ hl.1 s hm)
      simp [h, listVec_apply_of_not_mem l s hs]
    · have hb : (x.1 == s) = false := beq_false_of_ne h
      simp only [hb, Finsupp.single_apply, if_neg h, zero_add]
      exact ih hl.2

theorem matrixElement_sem [Nontrivial K] (p : Poly K) (bra ket : Nat) :
    matrixElement p bra ket = ((jwRep K).poly p (Finsupp.single ket 1)) bra := by
  rw [← actPoly_sem, listVec_apply_of_sorted _ _ (actPoly_sorted p ket)]
  rfl

end Poly

end Pomerol.Spec
