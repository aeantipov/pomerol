/-
  Compressed inner vectors -- lists of `(inner index, value)` pairs, the storage of `Model/GFPart.lean`
  and `Model/Chi4Part.lean` -- and the loops that walk two of them in parallel.

  The three walks of the models (`Chase.mergeWalk`: indices only; `Chi4Part.chaseWalk`: a body run on the
  two values at every common index; `GFPart.rowWalk`: the contributions of the Green's function) have the
  same control flow.  `chaseWalk_mergeWalk` says so once: the walk with values runs its body along the
  index walk.  What the index walk does is in `Spec/ChaseProps.lean` (property C17); everything the
  refinements need about the other two follows (`rowWalk_eq_chaseWalk`, `chase_sorted`,
  `chaseWalk_in_bounds`).

  For the sums: a sorted sparse vector `v` denotes the function `coeffIn v : ℕ → K` (stored value or 0),
  and the sum over the indices two vectors store in common is the full sum of the denoted functions
  (`sum_common`).  Both refinements say of their storage that `coeffIn (row i) j = A i j`:
  `Chi4Refine.RowMajorOf.entry` literally, `GFRefine.RepresentsRows` (stated with membership) through
  `GFRefine.RepresentsRows.coeffIn`.

  The two models and their refinements name the same things differently:
    `GFPart.SpVec`, `indices`   | `Chi4Part.SpVec`, `storedIdx`  (equal by `rfl`: `indices_eq_storedIdx`)
    `GFRefine.SortedVec`, `natExt`, `block`, `RepresentsRows`/`RepresentsCols`
                                | `Chi4Refine.SortedVec`, `natExt`, `blockOf`, `RowMajorOf`/`ColMajorOf`
    guard flags `gCX gC` of `rowWalk` (source: `sourceGuardCX`, `sourceGuardC`)
                                | one `guardFirst` (source: `sourceGuardFirst`)
-/
import PomerolModel.Model.GFPart
import PomerolModel.Model.Chi4Part
import PomerolModel.Spec.ChaseProps
import PomerolModel.Spec.SumLemmas

namespace Pomerol.Spec.SparseWalk
open Pomerol.Model Pomerol.Model.Chase Pomerol.Model.Chi4Part Pomerol.Properties

section Lookup
variable {K : Type}

theorem indices_eq_storedIdx (v : SpVec K) : GFPart.indices v = storedIdx v := rfl

theorem storedIdx_length (v : SpVec K) : (storedIdx v).length = v.length :=
  List.length_map _

theorem storedIdx_getElem? (v : SpVec K) (p : Nat) : (storedIdx v)[p]? = (v[p]?).map Prod.fst :=
  List.getElem?_map

theorem mem_storedIdx_iff (v : SpVec K) (i : Nat) : i ∈ storedIdx v ↔ ∃ x, (i, x) ∈ v := by
  unfold storedIdx
  rw [List.mem_map]
  constructor
  · rintro ⟨⟨j, x⟩, hm, rfl⟩; exact ⟨x, hm⟩
  · rintro ⟨x, hm⟩; exact ⟨(i, x), hm, rfl⟩

theorem indexAt_storedIdx {v : SpVec K} {p x : Nat} {val : K} (h : v[p]? = some (x, val)) :
    indexAt (storedIdx v) p = .ok x := by
  unfold indexAt
  rw [storedIdx_getElem?, h]
  rfl

theorem lookup_eq_none_iff_not_mem (v : SpVec K) (k : Nat) : v.lookup k = none ↔ k ∉ storedIdx v := by
  rw [List.lookup_eq_none_iff, mem_storedIdx_iff]
  constructor
  · rintro h ⟨x, hx⟩
    exact absurd rfl (bne_iff_ne.mp (h _ hx))
  · intro h p hp
    rw [bne_iff_ne]
    rintro rfl
    exact h ⟨p.2, hp⟩

theorem lookup_eq_some_iff_mem {v : SpVec K} (hv : C17.Sorted (storedIdx v)) (k : Nat) (x : K) :
    v.lookup k = some x ↔ (k, x) ∈ v := by
  rw [List.lookup_eq_some_iff]
  constructor
  · rintro ⟨s, t, rfl, -⟩
    exact List.mem_append_right _ List.mem_cons_self
  · intro h
    obtain ⟨s, t, rfl⟩ := List.append_of_mem h
    refine ⟨s, t, rfl, fun p hp => ?_⟩
    have hs : (s ++ (k, x) :: t).Pairwise fun p q => p.1 < q.1 := List.pairwise_map.mp hv
    have hlt : p.1 < k := (List.pairwise_append.mp hs).2.2 p hp (k, x) List.mem_cons_self
    rw [bne_iff_ne]
    exact Nat.ne_of_gt hlt

theorem lookup_of_getElem? {v : SpVec K} (hv : C17.Sorted (storedIdx v)) {p x : Nat} {val : K}
    (h : v[p]? = some (x, val)) : v.lookup x = some val :=
  (lookup_eq_some_iff_mem hv x val).mpr (List.mem_of_getElem? h)

theorem nodup_storedIdx {v : SpVec K} (hv : C17.Sorted (storedIdx v)) : (storedIdx v).Nodup :=
  List.Pairwise.imp (fun h => Nat.ne_of_lt h) hv

end Lookup

section Walk
variable {K β : Type}

/-- Whatever relation `R` between the indices collected by `mergeWalk` and the output of `chaseWalk`
is preserved when the body runs at a common index, holds at the end; and the two walks fail together.
For either form of the advancing loops, arbitrary (unsorted) vectors and any body. -/
theorem chaseWalk_mergeWalk (g : Bool) (a b : SpVec K) (body : Nat → K → K → List β)
    (R : List Nat → List β → Prop)
    (hR : ∀ (pa pb x : Nat) va vb accI acc, a[pa]? = some (x, va) → b[pb]? = some (x, vb) →
      R accI acc → R (accI ++ [x]) (acc ++ body x va vb)) :
    ∀ fuel pa pb accI acc, R accI acc →
      (∃ l r, mergeWalk g (storedIdx a) (storedIdx b) fuel pa pb accI = .ok l ∧
        chaseWalk g a b body fuel pa pb acc = .ok r ∧ R l r) ∨
      (∃ e, mergeWalk g (storedIdx a) (storedIdx b) fuel pa pb accI = .error e ∧
        chaseWalk g a b body fuel pa pb acc = .error e) := by
  intro fuel
  induction fuel with
  | zero => intro pa pb accI acc _; exact Or.inr ⟨_, rfl, rfl⟩
  | succ fuel ih =>
    intro pa pb accI acc hacc
    rw [chaseWalk, mergeWalk, storedIdx_length, storedIdx_length]
    by_cases hstop : pa ≥ a.length ∨ pb ≥ b.length
    · rw [if_pos hstop, if_pos hstop]; exact Or.inl ⟨_, _, rfl, rfl, hacc⟩
    · rw [if_neg hstop, if_neg hstop]
      rw [not_or, Nat.not_le, Nat.not_le] at hstop
      obtain ⟨⟨x, va⟩, hx⟩ : ∃ p, a[pa]? = some p := ⟨_, List.getElem?_eq_getElem hstop.1⟩
      obtain ⟨⟨y, vb⟩, hy⟩ : ∃ p, b[pb]? = some p := ⟨_, List.getElem?_eq_getElem hstop.2⟩
      rw [indexAt_storedIdx hx, indexAt_storedIdx hy, hx, hy]
      dsimp only
      by_cases hxy : x = y
      · subst hxy
        rw [if_pos rfl, if_pos rfl]
        exact ih _ _ _ _ (hR pa pb x va vb accI acc hx hy hacc)
      · rw [if_neg hxy, if_neg hxy]
        by_cases hlt : y < x
        · rw [if_pos hlt, if_pos hlt]
          rcases advance g (storedIdx b) x (b.length + 1) pb with e | pb'
          · exact Or.inr ⟨e, rfl, rfl⟩
          · exact ih pa pb' accI acc hacc
        · rw [if_neg hlt, if_neg hlt]
          rcases advance g (storedIdx a) y (a.length + 1) pa with e | pa'
          · exact Or.inr ⟨e, rfl, rfl⟩
          · exact ih pa' pb accI acc hacc

theorem chaseWalk_in_bounds (a b : SpVec K) (body : Nat → K → K → List β) :
    ∀ fuel pa pb acc, pa ≤ a.length → pb ≤ b.length → a.length + b.length < fuel + (pa + pb) →
      ∃ r, chaseWalk true a b body fuel pa pb acc = .ok r := by
  intro fuel pa pb acc hpa hpb hf
  obtain ⟨l, hl, -⟩ := ChaseProps.mergeWalk_spec (storedIdx a) (storedIdx b) fuel pa pb []
    (by rw [storedIdx_length]; exact hpa) (by rw [storedIdx_length]; exact hpb)
    (by rw [storedIdx_length, storedIdx_length]; exact hf)
  rcases chaseWalk_mergeWalk true a b body (fun _ _ => True) (fun _ _ _ _ _ _ _ _ _ _ => trivial)
    fuel pa pb [] acc trivial with ⟨_, r, _, h2, _⟩ | ⟨e, h1, _⟩
  · exact ⟨r, h2⟩
  · rw [hl] at h1; cases h1

/-- what the walk over two sorted vectors does at the inner index `x`: the body on the two stored
values, if both vectors store one -/
def atCommon (a b : SpVec K) (body : Nat → K → K → List β) (x : Nat) : List β :=
  match a.lookup x, b.lookup x with
  | some va, some vb => body x va vb
  | _, _ => []

theorem atCommon_of_mem (a b : SpVec K) (body : Nat → K → K → List β) {x : Nat}
    (ha : x ∈ storedIdx a) (hb : x ∈ storedIdx b) :
    ∃ va vb, a.lookup x = some va ∧ b.lookup x = some vb ∧ atCommon a b body x = body x va vb := by
  unfold atCommon
  cases h1 : a.lookup x with
  | none => exact absurd ha ((lookup_eq_none_iff_not_mem a x).mp h1)
  | some va =>
    cases h2 : b.lookup x with
    | none => exact absurd hb ((lookup_eq_none_iff_not_mem b x).mp h2)
    | some vb => exact ⟨va, vb, rfl, rfl, rfl⟩

theorem chase_sorted (a b : SpVec K) (ha : C17.Sorted (storedIdx a)) (hb : C17.Sorted (storedIdx b))
    (body : Nat → K → K → List β) (acc : List β) :
    chaseWalk true a b body (a.length + b.length + 1) 0 0 acc
      = .ok (acc ++ ((storedIdx a).filter (· ∈ storedIdx b)).flatMap (atCommon a b body)) := by
  have hc := ChaseProps.commonIndices_sorted (storedIdx a) (storedIdx b) ha hb
  unfold commonIndices at hc
  rw [storedIdx_length, storedIdx_length] at hc
  rcases chaseWalk_mergeWalk true a b body (fun l r => r = acc ++ l.flatMap (atCommon a b body))
    (by
      intro pa pb x va vb accI acc' hx hy h
      rw [h, List.flatMap_append, List.flatMap_singleton, List.append_assoc]
      unfold atCommon
      rw [lookup_of_getElem? ha hx, lookup_of_getElem? hb hy])
    (a.length + b.length + 1) 0 0 [] acc (List.append_nil acc).symm with ⟨l, r, h1, h2, h3⟩ | ⟨e, h1, _⟩
  · rw [hc] at h1; cases h1; rw [h2, h3]
  · rw [hc] at h1; cases h1

/-- `rowWalk` has a guard flag for each of its two advancing loops, `chaseWalk` one for both: the walks
are compared at equal flags only -/
theorem rowWalk_eq_chaseWalk {V : Type} (g : Bool) (keep : Nat → Nat → V → V → Bool) (i : Nat)
    (a b : SpVec V) : ∀ fuel pa pb acc,
    GFPart.rowWalk g g keep i a b fuel pa pb acc
      = chaseWalk g a b (fun x c cx => if keep i x c cx then [(i, x, c, cx)] else []) fuel pa pb
          acc := by
  intro fuel
  induction fuel with
  | zero => intro pa pb acc; rfl
  | succ fuel ih =>
    intro pa pb acc
    rw [chaseWalk, GFPart.rowWalk]
    by_cases hstop : pa ≥ a.length ∨ pb ≥ b.length
    · rw [if_pos hstop, if_pos hstop]
    · rw [if_neg hstop, if_neg hstop]
      rw [not_or, Nat.not_le, Nat.not_le] at hstop
      obtain ⟨⟨x, va⟩, hx⟩ : ∃ p, a[pa]? = some p := ⟨_, List.getElem?_eq_getElem hstop.1⟩
      obtain ⟨⟨y, vb⟩, hy⟩ : ∃ p, b[pb]? = some p := ⟨_, List.getElem?_eq_getElem hstop.2⟩
      have hva : GFPart.valueAt a pa = .ok va := by unfold GFPart.valueAt; rw [hx]
      have hvb : GFPart.valueAt b pb = .ok vb := by unfold GFPart.valueAt; rw [hy]
      rw [indices_eq_storedIdx, indices_eq_storedIdx, indexAt_storedIdx hx, indexAt_storedIdx hy,
        hx, hy, hva, hvb]
      dsimp only
      simp only [ih]
      by_cases hk : keep i x va vb = true
      · rw [if_pos hk, if_pos hk]; rfl
      · rw [if_neg hk, if_neg hk, List.append_nil]; rfl

end Walk

section Denote
variable {K M β : Type} [Zero K] [AddCommMonoid M]

theorem coeffIn_of_not_mem (v : SpVec K) (i : Nat) (h : i ∉ storedIdx v) : coeffIn v i = 0 := by
  unfold coeffIn
  rw [(lookup_eq_none_iff_not_mem v i).mpr h]

theorem atCommon_coeffIn (a b : SpVec K) (body : Nat → K → K → List β) {x : Nat}
    (ha : x ∈ storedIdx a) (hb : x ∈ storedIdx b) :
    atCommon a b body x = body x (coeffIn a x) (coeffIn b x) := by
  obtain ⟨va, vb, h1, h2, h⟩ := atCommon_of_mem a b body ha hb
  unfold coeffIn
  rw [h, h1, h2]

theorem sum_common {n : ℕ} (a b : SpVec K) (ha : C17.Sorted (storedIdx a))
    (hn : ∀ i ∈ storedIdx a, i < n) (F : ℕ → K → K → M)
    (hF1 : ∀ i y, F i 0 y = 0) (hF2 : ∀ i x, F i x 0 = 0) :
    (((storedIdx a).filter (· ∈ storedIdx b)).map fun i => F i (coeffIn a i) (coeffIn b i)).sum
      = ∑ i : Fin n, F i (coeffIn a i) (coeffIn b i) := by
  rw [sum_list_eq_sum_coded Fin.valEmbedding _ ((nodup_storedIdx ha).filter _)]
  · rfl
  · intro k hk hout
    exact absurd ⟨⟨k, hn k (List.mem_of_mem_filter hk)⟩, rfl⟩ hout
  · intro j hj
    show F j.1 (coeffIn a j.1) (coeffIn b j.1) = 0
    by_cases h : j.1 ∈ storedIdx a
    · rw [coeffIn_of_not_mem b j.1 fun hb => hj (List.mem_filter.mpr ⟨h, decide_eq_true hb⟩)]
      exact hF2 _ _
    · rw [coeffIn_of_not_mem a _ h]
      exact hF1 _ _

end Denote

end Pomerol.Spec.SparseWalk
