/-
  Property C20: the model of `Lattice` / `LatticePresets` (`Model/Lattice.lean`, partly generated from the
  C++ source) against the hand-written specification predicates of `Model/LatticeSpec.lean`.  Core Lean only.

  `SitesOK` / `TermsOK` say that the two containers are sorted with distinct keys, as a `std::map` is.  For
  the presets one direction is proved: a preset that returns normally was called with arguments for which it
  is documented (`*_defined`) and stores only valid terms (invariant `Inv` carried through the loops); not
  that it returns normally for all such arguments.
-/
import PomerolModel.Model.LatticeSpec

namespace Pomerol.Spec.LatticeProps
open Pomerol.Model.Lat Pomerol.Model.LatSpec Pomerol.Gen.Presets

set_option linter.unusedSectionVars false

variable {K : Type} [Add K] [Sub K] [Mul K] [Div K] [Neg K] [Zero K] [One K] [NatCast K] [NonzeroTest K]

def SitesOK (L : Lattice K) : Prop := (L.sites.map (·.label)).Pairwise (· < ·)
def TermsOK (L : Lattice K) : Prop := (L.terms.map (·.1)).Pairwise (· < ·)

theorem empty_ok : SitesOK (Model.Lat.empty : Lattice K) ∧ TermsOK (Model.Lat.empty : Lattice K) := by
  simp [SitesOK, TermsOK, Model.Lat.empty]

private theorem mem_insertSite (s : Site) (l : List Site) (x : Site) (hx : x ∈ insertSite s l) :
    x = s ∨ x ∈ l := by
  induction l with
  | nil => simp [insertSite] at hx; exact .inl hx
  | cons t rest ih =>
    simp only [insertSite] at hx
    split at hx
    · simp only [List.mem_cons] at hx ⊢
      rcases hx with h | h
      · exact .inl h
      · exact .inr (.inr h)
    · split at hx
      · simp only [List.mem_cons] at hx ⊢
        exact hx
      · simp only [List.mem_cons] at hx ⊢
        rcases hx with h | h
        · exact .inr (.inl h)
        · rcases ih h with h | h
          · exact .inl h
          · exact .inr (.inr h)

theorem insertSite_sorted (s : Site) (l : List Site)
    (h : (l.map (·.label)).Pairwise (· < ·)) : ((insertSite s l).map (·.label)).Pairwise (· < ·) := by
  rw [List.pairwise_map] at h ⊢
  induction l with
  | nil => simp [insertSite]
  | cons t rest ih =>
    obtain ⟨h1, h2⟩ := List.pairwise_cons.1 h
    simp only [insertSite]
    split
    · rename_i heq
      exact List.pairwise_cons.2 ⟨fun a ha => heq ▸ h1 a ha, h2⟩
    · split
      · rename_i hlt
        refine List.pairwise_cons.2 ⟨fun a ha => ?_, h⟩
        rcases List.mem_cons.1 ha with rfl | ha
        · exact hlt
        · exact String.lt_trans hlt (h1 a ha)
      · rename_i hne hlt
        refine List.pairwise_cons.2 ⟨fun a ha => ?_, ih h2⟩
        rcases mem_insertSite s rest a ha with rfl | h
        · exact Std.lt_of_le_of_ne (String.not_lt.mp hlt) fun h => hne h.symm
        · exact h1 a h

theorem addSite_ok (L : Lattice K) (h : SitesOK L) (l : String) (o s : Nat) : SitesOK (addSite L l o s) :=
  insertSite_sorted _ _ h

private theorem mem_insertTermList (n : Nat) (t : Term K) (l : List (Nat × List (Term K))) (x : Nat)
    (hx : x ∈ (insertTermList n t l).map (·.1)) : x = n ∨ x ∈ l.map (·.1) := by
  induction l with
  | nil => simp [insertTermList] at hx; exact .inl hx
  | cons p rest ih =>
    obtain ⟨m, ts⟩ := p
    simp only [insertTermList] at hx
    split at hx
    · exact .inr hx
    · split at hx
      · exact List.mem_cons.1 hx
      · simp only [List.map_cons, List.mem_cons] at hx ⊢
        rcases hx with h | h
        · exact .inr (.inl h)
        · rcases ih h with h | h
          · exact .inl h
          · exact .inr (.inr h)

private theorem insertTermList_sorted (n : Nat) (t : Term K) (l : List (Nat × List (Term K)))
    (h : (l.map (·.1)).Pairwise (· < ·)) : ((insertTermList n t l).map (·.1)).Pairwise (· < ·) := by
  induction l with
  | nil => simp [insertTermList]
  | cons p rest ih =>
    obtain ⟨m, ts⟩ := p
    simp only [List.map_cons, List.pairwise_cons] at h
    obtain ⟨h1, h2⟩ := h
    simp only [insertTermList]
    split
    · simp only [List.map_cons, List.pairwise_cons]
      exact ⟨h1, h2⟩
    · split
      · rename_i hne hlt
        simp only [List.map_cons, List.pairwise_cons, List.mem_cons, forall_eq_or_imp]
        exact ⟨⟨hlt, fun a ha => Nat.lt_trans hlt (h1 a ha)⟩, h1, h2⟩
      · rename_i hne hlt
        simp only [List.map_cons, List.pairwise_cons]
        refine ⟨fun a ha => ?_, ih h2⟩
        rcases mem_insertTermList n t rest a ha with rfl | h
        · omega
        · exact h1 a h

theorem storeTerm_ok (L : Lattice K) (h : TermsOK L) (t : Term K) : TermsOK (storeTerm L t) :=
  insertTermList_sorted _ _ _ h

theorem findSite_eq_siteOf (L : Lattice K) (l : String) : findSite L l = siteOf L l := by
  unfold findSite siteOf
  congr 1

theorem findSite_mem {K : Type} (L : Lattice K) (l : String) (a : Site) (ha : findSite L l = some a) :
    a ∈ L.sites ∧ a.label = l := by
  unfold findSite at ha
  exact ⟨List.mem_of_find?_eq_some ha, by simpa using List.find?_some ha⟩

private theorem find_insertSite (s : Site) (l : List Site) (l' : String) :
    (insertSite s l).find? (fun x => decide (x.label = l')) =
      if s.label = l' then some s else l.find? (fun x => decide (x.label = l')) := by
  induction l with
  | nil => by_cases h : s.label = l' <;> simp [insertSite, h]
  | cons t rest ih =>
    simp only [insertSite]
    split
    · rename_i heq
      by_cases h : s.label = l' <;> simp [h, ← heq]
    · split
      · by_cases h : s.label = l' <;> simp [h]
      · rename_i hne _
        rw [List.find?_cons, ih]
        by_cases h : s.label = l'
        · have : ¬ t.label = l' := fun e => hne (h.trans e.symm)
          simp [h, this]
        · simp [h, List.find?_cons]

theorem getSite_after_addSite (L : Lattice K) (h : SitesOK L) (l : String) (o s : Nat) :
    getSite (addSite L l o s) l = .ok ⟨l, o, s⟩ := by
  have _ := h  -- not needed for the proof
  simp only [getSite, findSite, addSite, find_insertSite, if_pos, getSiteThrowsOnMissing]

theorem getSite_other (L : Lattice K) (l l' : String) (o s : Nat) (hne : l' ≠ l) :
    getSite (addSite L l o s) l' = getSite L l' := by
  simp only [getSite, findSite, addSite, find_insertSite, if_neg hne.symm]

theorem getSite_unknown (L : Lattice K) (l : String) (h : siteOf L l = none) :
    getSite L l = .error .wrongLabel := by
  rw [← findSite_eq_siteOf] at h
  simp [getSite, h, getSiteThrowsOnMissing]

/-- some site with label `l` accommodates orbital `o` and spin `z` (one conjunct of `validTerm`) -/
def slotOK (S : List Site) (l : String) (o z : Nat) : Bool :=
  S.any fun s => s.label == l && decide (o < s.norb) && decide (z < s.nspin)

/-- the check that `Lattice::addTerm` makes for one factor -/
def slotChk (S : List Site) (l : String) (o z : Nat) : Bool :=
  match S.find? (fun x => decide (x.label = l)) with
  | none => false
  | some s => decide (o < s.norb) && decide (z < s.nspin)

/-- `validTerm` depends on the lattice only through its sites -/
def validS (S : List Site) (t : Term K) : Bool :=
  (List.range t.order).all fun i => slotOK S (t.labels.getD i "") (t.orbs.getD i 0) (t.spins.getD i 0)

theorem validTerm_eq_validS (L : Lattice K) (t : Term K) : validTerm L t = validS L.sites t := rfl

theorem validateTerm_def (L : Lattice K) (t : Term K) :
    validateTerm L t = (List.range t.order).all fun i =>
      slotChk L.sites (t.labels.getD i "") (t.orbs.getD i 0) (t.spins.getD i 0) := by
  unfold validateTerm slotChk findSite
  rfl

theorem slotOK_of_find (S : List Site) (l : String) (o z : Nat) (s : Site)
    (hf : S.find? (fun x => decide (x.label = l)) = some s) (ho : o < s.norb) (hz : z < s.nspin) :
    slotOK S l o z = true := by
  have hm := List.mem_of_find?_eq_some hf
  have hl := List.find?_some hf
  simp only [decide_eq_true_eq] at hl
  simp only [slotOK, List.any_eq_true]
  exact ⟨s, hm, by simp [hl, ho, hz]⟩

theorem slotOK_of_slotChk (S : List Site) (l : String) (o z : Nat) (h : slotChk S l o z = true) :
    slotOK S l o z = true := by
  unfold slotChk at h
  split at h
  · cases h
  · rename_i s hf
    simp only [Bool.and_eq_true, decide_eq_true_eq] at h
    exact slotOK_of_find S l o z s hf h.1 h.2

theorem slotChk_eq_slotOK (S : List Site) (hS : (S.map (·.label)).Pairwise (· < ·)) (l : String) (o z : Nat) :
    slotChk S l o z = slotOK S l o z := by
  rw [List.pairwise_map] at hS
  induction S with
  | nil => simp [slotChk, slotOK]
  | cons s rest ih =>
    obtain ⟨h1, h2⟩ := List.pairwise_cons.1 hS
    by_cases hl : s.label = l
    · have hrest : rest.any (fun s => s.label == l && decide (o < s.norb) && decide (z < s.nspin)) = false := by
        rw [List.any_eq_false]
        intro x hx
        have hlt := h1 x hx
        have : ¬ x.label = l := fun h => String.lt_irrefl l (by rw [hl, h] at hlt; exact hlt)
        simp [this]
      simp only [slotChk, slotOK, List.find?_cons, hl, decide_true, List.any_cons, hrest, Bool.or_false,
        beq_self_eq_true, Bool.true_and]
    · have ih' := ih h2
      simp only [slotChk, slotOK] at ih' ⊢
      simp only [List.find?_cons, hl, decide_false, List.any_cons, ih', beq_false_of_ne hl, Bool.false_and,
        Bool.false_or]

theorem validTerm_of_validateTerm (L : Lattice K) (t : Term K) (h : validateTerm L t = true) :
    validTerm L t = true := by
  rw [validateTerm_def, List.all_eq_true] at h
  rw [validTerm_eq_validS, validS, List.all_eq_true]
  exact fun i hi => slotOK_of_slotChk _ _ _ _ (h i hi)

/-- Only for unique labels (`SitesOK L`): with a duplicated label `validTerm` may accept a term through the
second site while the C++ loop only ever sees the first one.  Such a site list is unreachable (`empty_ok`,
`addSite_ok`). -/
theorem validateTerm_eq_validTerm (L : Lattice K) (hS : SitesOK L) (t : Term K) :
    validateTerm L t = validTerm L t := by
  rw [validateTerm_def, validTerm_eq_validS, validS]
  congr 1
  funext i
  exact slotChk_eq_slotOK _ hS _ _ _

theorem addTerm_invalid (L : Lattice K) (t : Term K) (h : validTerm L t = false) :
    addTerm L t = .error .wrongLabel := by
  have : validateTerm L t = false := by
    cases hv : validateTerm L t
    · rfl
    · rw [validTerm_of_validateTerm L t hv] at h; cases h
  simp [addTerm, this]

/-- Only for unique labels (`SitesOK L`), see `validateTerm_eq_validTerm`. -/
theorem addTerm_zero (L : Lattice K) (hS : SitesOK L) (t : Term K) (h : validTerm L t = true)
    (hz : NonzeroTest.nz t.value = false) : addTerm L t = .ok L := by
  rw [← validateTerm_eq_validTerm L hS] at h
  simp [addTerm, h, hz]

/-- Only for unique labels (`SitesOK L`), see `validateTerm_eq_validTerm`. -/
theorem addTerm_valid (L : Lattice K) (hS : SitesOK L) (t : Term K) (h : validTerm L t = true)
    (hz : NonzeroTest.nz t.value = true) : addTerm L t = .ok (storeTerm L t) := by
  rw [← validateTerm_eq_validTerm L hS] at h
  simp [addTerm, h, hz]

theorem addTerm_ok {L L' : Lattice K} {t : Term K} (h : addTerm L t = .ok L') :
    validateTerm L t = true ∧ L' = if NonzeroTest.nz t.value then storeTerm L t else L := by
  unfold addTerm at h
  split at h
  · cases h
  · rename_i hv
    refine ⟨by simpa using hv, ?_⟩
    split at h
    · rename_i hz; cases h; rw [if_pos hz]
    · rename_i hz; cases h; rw [if_neg hz]

private def lookupT (l : List (Nat × List (Term K))) (n : Nat) : List (Term K) :=
  match l.find? (fun p => decide (p.1 = n)) with
  | some (_, ts) => ts
  | none => []

private theorem lookupT_cons (m : Nat) (ts : List (Term K)) (l : List (Nat × List (Term K))) (n : Nat) :
    lookupT ((m, ts) :: l) n = if m = n then ts else lookupT l n := by
  unfold lookupT
  by_cases h : m = n <;> simp [h]

private theorem lookupT_none (l : List (Nat × List (Term K))) (n : Nat) (h : ∀ a ∈ l.map (·.1), n < a) :
    lookupT l n = [] := by
  induction l with
  | nil => rfl
  | cons p rest ih =>
    obtain ⟨m, ts⟩ := p
    simp only [List.map_cons, List.mem_cons, forall_eq_or_imp] at h
    rw [lookupT_cons, if_neg (Nat.ne_of_gt h.1), ih h.2]

private theorem lookupT_insert (k : Nat) (t : Term K) (l : List (Nat × List (Term K)))
    (h : (l.map (·.1)).Pairwise (· < ·)) (n : Nat) :
    lookupT (insertTermList k t l) n = if n = k then lookupT l n ++ [t] else lookupT l n := by
  induction l with
  | nil =>
    simp only [insertTermList, lookupT_cons]
    by_cases hk : n = k
    · simp [hk, lookupT]
    · have : ¬ k = n := fun h => hk h.symm
      simp [hk, this]
  | cons p rest ih =>
    obtain ⟨m, ts⟩ := p
    simp only [List.map_cons, List.pairwise_cons] at h
    obtain ⟨h1, h2⟩ := h
    by_cases hkm : k = m
    · subst hkm
      simp only [insertTermList, if_true, lookupT_cons]
      by_cases hk : n = k
      · simp [hk]
      · have : ¬ k = n := fun h => hk h.symm
        simp [hk, this]
    · simp only [insertTermList, if_neg hkm]
      split
      · rename_i hlt
        simp only [lookupT_cons]
        by_cases hk : n = k
        · subst hk
          have : ¬ m = n := Nat.ne_of_gt hlt
          have hr : lookupT rest n = [] := lookupT_none rest n (fun a ha => Nat.lt_trans hlt (h1 a ha))
          simp [this, hr]
        · have : ¬ k = n := fun h => hk h.symm
          simp [hk, this]
      · rename_i hlt
        simp only [lookupT_cons, ih h2]
        by_cases hm : m = n
        · have : ¬ n = k := fun h => hkm (hm.trans h).symm
          simp [hm, this]
        · simp [hm]

theorem getTerms_storeTerm (L : Lattice K) (h : TermsOK L) (t : Term K) (n : Nat) :
    getTerms (storeTerm L t) n = if n = t.order then getTerms L n ++ [t] else getTerms L n :=
  lookupT_insert t.order t L.terms h n

theorem maxOrder_storeTerm (L : Lattice K) (t : Term K) :
    (storeTerm L t).maxOrder = max L.maxOrder t.order := by
  simp only [storeTerm, Nat.max_def]
  split <;> split <;> omega

theorem storeTerm_sites (L : Lattice K) (t : Term K) : (storeTerm L t).sites = L.sites := rfl

theorem firstGuard_none (l : List (Bool × Nat)) : firstGuard l = none ↔ ∀ p ∈ l, p.1 = false := by
  induction l with
  | nil => simp [firstGuard]
  | cons p rest ih =>
    obtain ⟨b, c⟩ := p
    cases b <;> simp [firstGuard, ih]

/-- the guard list evaluated by a preset, as a function of the generated guard table -/
abbrev guardsOf (G : Bool → Bool → Int → Int → Int → Int → Int → Int → Int → Int → List (Bool × Nat))
    (L : Lattice K) (l1 l2 : String) (o1 o2 s1 s2 : Int) : List (Bool × Nat) :=
  G (guardEnv L l1 l2).m1 (guardEnv L l1 l2).m2 (guardEnv L l1 l2).orbsz1 (guardEnv L l1 l2).orbsz2
    (guardEnv L l1 l2).spinsz1 (guardEnv L l1 l2).spinsz2 o1 o2 s1 s2

/-- Every preset has the shape `match firstGuard … with | some e => throw e | none => body`: when it
returns normally, no guard fired and the result is that of the body.  Applies to `h : addX … = .ok L'`
as it stands, by unfolding `addX`. -/
theorem ok_of_guarded {α : Type} {g : Option Exc} {body : Except Exc α} {x : α}
    (h : (match g with | some e => Except.error e | none => body) = .ok x) : g = none ∧ body = .ok x := by
  cases g with
  | none => exact ⟨rfl, h⟩
  | some e => cases h

theorem guardEnv_of_sites {L : Lattice K} {l1 l2 : String} {a b : Site} (ha : findSite L l1 = some a)
    (hb : findSite L l2 = some b) :
    guardEnv L l1 l2 = ⟨false, false, a.norb, b.norb, a.nspin, b.nspin⟩ := by
  simp [guardEnv, ha, hb]

/-- the guard list of every two-site preset begins with the two `missing` guards: when none fires,
both sites exist -/
theorem sites_of_not_missing {L : Lattice K} {l1 l2 : String} {rest : List (Bool × Nat)}
    (hg : ∀ p ∈ ((guardEnv L l1 l2).m1, 0) :: ((guardEnv L l1 l2).m2, 0) :: rest, p.1 = false) :
    ∃ a b, findSite L l1 = some a ∧ findSite L l2 = some b ∧
      guardEnv L l1 l2 = ⟨false, false, a.norb, b.norb, a.nspin, b.nspin⟩ := by
  have h1 := hg _ List.mem_cons_self
  have h2 := hg _ (List.mem_cons_of_mem _ List.mem_cons_self)
  cases ha : findSite L l1 with
  | none => simp [guardEnv, ha] at h1
  | some a =>
    cases hb : findSite L l2 with
    | none => simp [guardEnv, hb] at h2
    | some b => exact ⟨a, b, rfl, rfl, guardEnv_of_sites ha hb⟩

theorem onSite_facts (L : Lattice K) (l : String)
    (hg : firstGuard (guardsOf addCoulombSGuards L l l 0 0 0 0) = none) :
    ∃ a, findSite L l = some a := by
  rw [firstGuard_none] at hg
  cases ha : findSite L l <;> simp [ha, addCoulombSGuards, guardEnv] at hg ⊢

theorem coulombP_facts (L : Lattice K) (l : String)
    (hg : firstGuard (guardsOf addCoulombPGuards L l l 0 0 0 0) = none) :
    ∃ a, findSite L l = some a ∧ 2 ≤ a.norb ∧ 2 ≤ a.nspin := by
  rw [firstGuard_none] at hg
  cases ha : findSite L l <;> simp [ha, addCoulombPGuards, guardEnv] at hg ⊢
  omega

theorem magnetization_facts (L : Lattice K) (l : String)
    (hg : firstGuard (guardsOf addMagnetizationGuards L l l 0 0 0 0) = none) :
    ∃ a, findSite L l = some a ∧ a.nspin = 2 := by
  rw [firstGuard_none] at hg
  cases ha : findSite L l <;> simp [ha, addMagnetizationGuards, guardEnv] at hg ⊢
  omega

theorem szsz_facts (L : Lattice K) (l1 l2 : String)
    (hg : firstGuard (guardsOf addSzSzGuards L l1 l2 0 0 0 0) = none) :
    ∃ a b, findSite L l1 = some a ∧ findSite L l2 = some b ∧ a.norb = b.norb ∧ a.nspin = b.nspin ∧ a.nspin = 2 := by
  rw [firstGuard_none] at hg
  obtain ⟨a, b, ha, hb, he⟩ := sites_of_not_missing hg
  refine ⟨a, b, ha, hb, ?_⟩
  simp [addSzSzGuards, he] at hg
  -- `hg : (↑a.norb = ↑b.norb ∧ ↑a.nspin = ↑b.nspin) ∧ ↑a.nspin = 2` (casts to `Int`): the goal, grouped to the left
  exact_mod_cast and_assoc.1 hg

theorem addCoulombS_defined (L L' : Lattice K) (l : String) (U lv : K) (h : addCoulombS L l U lv = .ok L') :
    definedOnSite L l = true := by
  obtain ⟨a, ha⟩ := onSite_facts L l (ok_of_guarded h).1
  simp [definedOnSite, ← findSite_eq_siteOf, ha]

theorem addLevel_defined (L L' : Lattice K) (l : String) (lv : K) (h : addLevel L l lv = .ok L') :
    definedOnSite L l = true := by
  obtain ⟨a, ha⟩ := onSite_facts L l (ok_of_guarded h).1
  simp [definedOnSite, ← findSite_eq_siteOf, ha]

theorem addCoulombP_defined (L L' : Lattice K) (l : String) (U Up J lv : K)
    (h : addCoulombP L l U Up J lv = .ok L') : definedCoulombP L l = true := by
  obtain ⟨a, ha, h1, h2⟩ := coulombP_facts L l (ok_of_guarded h).1
  simp [definedCoulombP, ← findSite_eq_siteOf, ha, h1, h2]

theorem addMagnetization_defined (L L' : Lattice K) (l : String) (m : K)
    (h : addMagnetization L l m = .ok L') : definedMagnetization L l = true := by
  obtain ⟨a, ha, h1⟩ := magnetization_facts L l (ok_of_guarded h).1
  simp [definedMagnetization, ← findSite_eq_siteOf, ha, h1]

theorem addSzSz_defined (L L' : Lattice K) (l1 l2 : String) (J : K) (h : addSzSz L l1 l2 J = .ok L') :
    definedExchange L l1 l2 = true := by
  obtain ⟨a, b, ha, hb, h1, h2, h3⟩ := szsz_facts L l1 l2 (ok_of_guarded h).1
  simp [definedExchange, ← findSite_eq_siteOf, ha, hb, ← h1, ← h2, h3]

theorem addSS_defined (L L' : Lattice K) (l1 l2 : String) (J : K) (h : addSS L l1 l2 J = .ok L') :
    definedExchange L l1 l2 = true := by
  obtain ⟨a, b, ha, hb, h1, h2, h3⟩ := szsz_facts L l1 l2 (ok_of_guarded h).1
  simp [definedExchange, ← findSite_eq_siteOf, ha, hb, ← h1, ← h2, h3]

theorem addHoppingAll_defined (cj : K → K) (L L' : Lattice K) (l1 l2 : String) (t : K)
    (h : addHoppingAll cj L l1 l2 t = .ok L') : definedHoppingAll L l1 l2 = true := by
  have hg := (firstGuard_none _).1 (ok_of_guarded h).1
  obtain ⟨a, b, ha, hb, he⟩ := sites_of_not_missing hg
  simp [addHoppingAllGuards, he] at hg
  simp [definedHoppingAll, ← findSite_eq_siteOf, ha, hb]
  exact_mod_cast hg

theorem addHoppingOrb_defined (cj : K → K) (L L' : Lattice K) (l1 l2 : String) (t : K) (o1 o2 : Nat)
    (h : addHoppingOrb cj L l1 l2 t o1 o2 = .ok L') : definedHoppingOrb L l1 l2 o1 o2 = true := by
  have hg := (firstGuard_none _).1 (ok_of_guarded h).1
  obtain ⟨a, b, ha, hb, he⟩ := sites_of_not_missing hg
  simp [addHoppingOrbGuards, he] at hg
  simp [definedHoppingOrb, ← findSite_eq_siteOf, ha, hb]
  exact_mod_cast hg

theorem addHoppingFull_defined (cj : K → K) (L L' : Lattice K) (l1 l2 : String) (t : K) (o1 o2 s1 s2 : Nat)
    (h : addHoppingFull cj L l1 l2 t o1 o2 s1 s2 = .ok L') : definedHoppingFull L l1 l2 o1 o2 s1 s2 = true := by
  have hg := (firstGuard_none _).1 (ok_of_guarded h).1
  obtain ⟨a, b, ha, hb, he⟩ := sites_of_not_missing hg
  simp [addHoppingFullGuards, he] at hg
  simp [definedHoppingFull, ← findSite_eq_siteOf, ha, hb]
  exact hg

theorem tSpinflip_defined (l : String) (v : K) (o1 o2 s1 s2 : Nat) (t : Term K)
    (h : tSpinflip l v o1 o2 s1 s2 = .ok t) : definedSpinflip o1 o2 s1 s2 = true := by
  unfold tSpinflip at h
  split at h
  · cases h
  · rename_i hr
    simp [spinflipRejects] at hr
    simp only [definedSpinflip, Bool.and_eq_true, bne_iff_ne, ne_eq]
    exact_mod_cast hr

theorem tPairHopping_defined (l : String) (v : K) (o1 o2 s1 s2 : Nat) (t : Term K)
    (h : tPairHopping l v o1 o2 s1 s2 = .ok t) : definedSpinflip o1 o2 s1 s2 = true := by
  unfold tPairHopping at h
  split at h
  · cases h
  · rename_i hr
    simp [pairhoppingRejects] at hr
    simp only [definedSpinflip, Bool.and_eq_true, bne_iff_ne, ne_eq]
    exact_mod_cast hr

theorem allValid_def (L : Lattice K) : allValid L = L.terms.all fun p => p.2.all (validS L.sites) := rfl

private theorem all_insertTermList (P : Nat → Term K → Bool) (n : Nat) (t : Term K)
    (l : List (Nat × List (Term K))) (hl : (l.all fun p => p.2.all (P p.1)) = true) (ht : P n t = true) :
    ((insertTermList n t l).all fun p => p.2.all (P p.1)) = true := by
  induction l with
  | nil => simp [insertTermList, ht]
  | cons p rest ih =>
    obtain ⟨m, ts⟩ := p
    simp only [List.all_cons, Bool.and_eq_true] at hl
    simp only [insertTermList]
    split
    · rename_i hm
      simp only [List.all_cons, List.all_append, List.all_nil, Bool.and_true, Bool.and_eq_true]
      exact ⟨⟨hl.1, hm ▸ ht⟩, hl.2⟩
    · split
      · simp only [List.all_cons, List.all_nil, Bool.and_true, Bool.and_eq_true]
        exact ⟨ht, hl.1, hl.2⟩
      · simp only [List.all_cons, Bool.and_eq_true]
        exact ⟨hl.1, ih hl.2⟩

theorem storeTerm_allValid (L : Lattice K) (t : Term K) (h : allValid L = true) (ht : validTerm L t = true) :
    allValid (storeTerm L t) = true := by
  rw [allValid_def] at h ⊢
  exact all_insertTermList (fun _ => validS L.sites) _ _ _ h ht

def Inv (S : List Site) (L : Lattice K) : Prop := L.sites = S ∧ allValid L = true

theorem Inv_store {S : List Site} {L : Lattice K} (h : Inv S L) (t : Term K) (ht : validS S t = true) :
    Inv S (storeTerm L t) := by
  obtain ⟨h1, h2⟩ := h
  subst h1
  exact ⟨rfl, storeTerm_allValid L t h2 ht⟩

theorem Inv_ite {S : List Site} {L : Lattice K} (h : Inv S L) (c : Prop) [Decidable c] (t : Term K)
    (ht : validS S t = true) : Inv S (if c then storeTerm L t else L) := by
  split
  · exact Inv_store h t ht
  · exact h

/-- Induction over a counted loop: a property of (passes done so far, state) that holds at the start
and is carried by every pass holds at the end.  The loops of the presets are proved through this, with
a property that ignores the passes (`forRange_inv`) or adds up what they stored (`Spec/PresetSem.lean`). -/
theorem foldl_ind {σ : Type} (P : List Nat → σ → Prop) (f : σ → Nat → σ) (l : List Nat) (s : σ)
    (h0 : P [] s) (hstep : ∀ pre i s, i ∈ l → P pre s → P (pre ++ [i]) (f s i)) :
    P l (l.foldl f s) := by
  induction l generalizing s P with
  | nil => exact h0
  | cons a rest ih =>
    exact ih (fun pre => P (a :: pre)) _ (hstep [] a s (by simp) h0)
      (fun pre i s hi => hstep (a :: pre) i s (by simp [hi]))

theorem forRange_inv {σ : Type} (P : σ → Prop) (n : Nat) (s : σ) (f : σ → Nat → σ) (h0 : P s)
    (hstep : ∀ s i, i < n → P s → P (f s i)) : P (forRange n s f) :=
  foldl_ind (fun _ => P) f _ s h0 (fun _ i s hi => hstep s i (by simpa using hi))

theorem foldlM_ind {σ : Type} (P : List Nat → σ → Prop) (f : σ → Nat → Except Exc σ) (l : List Nat)
    (s s' : σ) (h0 : P [] s)
    (hstep : ∀ pre i s s', i ∈ l → P pre s → f s i = .ok s' → P (pre ++ [i]) s')
    (h : l.foldlM f s = .ok s') : P l s' := by
  induction l generalizing s P with
  | nil =>
    simp only [List.foldlM_nil, pure, Except.pure] at h
    cases h; exact h0
  | cons a rest ih =>
    simp only [List.foldlM_cons, bind, Except.bind] at h
    split at h
    · cases h
    · rename_i s1 hs1
      exact ih (fun pre => P (a :: pre)) s1 (hstep [] a s s1 (by simp) h0 hs1)
        (fun pre i s s' hi => hstep (a :: pre) i s s' (by simp [hi])) h

theorem rangeM_inv {σ : Type} (P : σ → Prop) (n : Nat) (f : σ → Nat → Except Exc σ) (s s' : σ) (h0 : P s)
    (hstep : ∀ s i s', i < n → P s → f s i = .ok s' → P s') (h : (List.range n).foldlM f s = .ok s') : P s' :=
  foldlM_ind (fun _ => P) f _ s s' h0 (fun _ i s s' hi => hstep s i s' (by simpa using hi)) h

/-! validity of the preset terms: a term is valid when each of its factors has a slot; the factories
unfold to records with two or four factors -/

theorem validS_two {S : List Site} {a1 a2 : Bool} {l1 l2 : String} {o1 o2 s1 s2 : Nat} {v : K}
    (h1 : slotOK S l1 o1 s1 = true) (h2 : slotOK S l2 o2 s2 = true) :
    validS S ⟨[a1, a2], [l1, l2], [o1, o2], [s1, s2], v⟩ = true := by
  show (slotOK S l1 o1 s1 && (slotOK S l2 o2 s2 && true)) = true
  rw [h1, h2]; rfl

theorem validS_four {S : List Site} {a1 a2 a3 a4 : Bool} {l1 l2 l3 l4 : String}
    {o1 o2 o3 o4 s1 s2 s3 s4 : Nat} {v : K} (h1 : slotOK S l1 o1 s1 = true)
    (h2 : slotOK S l2 o2 s2 = true) (h3 : slotOK S l3 o3 s3 = true) (h4 : slotOK S l4 o4 s4 = true) :
    validS S ⟨[a1, a2, a3, a4], [l1, l2, l3, l4], [o1, o2, o3, o4], [s1, s2, s3, s4], v⟩ = true := by
  show (slotOK S l1 o1 s1 && (slotOK S l2 o2 s2 && (slotOK S l3 o3 s3 && (slotOK S l4 o4 s4 && true))))
    = true
  rw [h1, h2, h3, h4]; rfl

theorem valid_tLevel (S : List Site) (l : String) (v : K) (o z : Nat) (h : slotOK S l o z = true) :
    validS S (tLevel l v o z) = true :=
  validS_two h h

theorem valid_tNupNdown (S : List Site) (l1 l2 : String) (v : K) (o1 o2 s1 s2 : Nat)
    (h1 : slotOK S l1 o1 s1 = true) (h2 : slotOK S l2 o2 s2 = true) :
    validS S (tNupNdown l1 l2 v o1 o2 s1 s2) = true := by
  unfold tNupNdown
  split
  · exact validS_two h1 h1
  · exact validS_four h1 h1 h2 h2

theorem tSpinflip_of_ne (l : String) (v : K) {o1 o2 s1 s2 : Nat} (ho : o1 ≠ o2) (hs : s1 ≠ s2) :
    tSpinflip l v o1 o2 s1 s2 =
      .ok ⟨[true, true, false, false], [l, l, l, l], [o1, o2, o2, o1], [s1, s2, s1, s2], v⟩ := by
  unfold tSpinflip
  rw [if_neg (by simp only [spinflipRejects, Bool.or_eq_true, decide_eq_true_eq]; omega)]
  rfl

theorem tPairHopping_of_ne (l : String) (v : K) {o1 o2 s1 s2 : Nat} (ho : o1 ≠ o2) (hs : s1 ≠ s2) :
    tPairHopping l v o1 o2 s1 s2 =
      .ok ⟨[true, true, false, false], [l, l, l, l], [o1, o1, o2, o2], [s1, s2, s1, s2], v⟩ := by
  unfold tPairHopping
  rw [if_neg (by simp only [pairhoppingRejects, Bool.or_eq_true, decide_eq_true_eq]; omega)]
  rfl

theorem guardEnv_orb1 (L : Lattice K) (l1 l2 : String) (a : Site) (ha : findSite L l1 = some a) :
    (guardEnv L l1 l2).orbsz1.toNat = a.norb := by simp [guardEnv, ha]

theorem guardEnv_spin1 (L : Lattice K) (l1 l2 : String) (a : Site) (ha : findSite L l1 = some a) :
    (guardEnv L l1 l2).spinsz1.toNat = a.nspin := by simp [guardEnv, ha]

theorem slotOK_of_findSite {S : List Site} {L : Lattice K} (hS : L.sites = S) {l : String} {a : Site}
    (ha : findSite L l = some a) {o z : Nat} (ho : o < a.norb) (hz : z < a.nspin) : slotOK S l o z = true := by
  subst hS
  exact slotOK_of_find _ l o z a ha ho hz

theorem slotOK_spinHalf {S : List Site} {L : Lattice K} (hS : L.sites = S) {l : String} {a : Site}
    (ha : findSite L l = some a) (hsp : a.nspin = 2) {o : Nat} (ho : o < a.norb) :
    slotOK S l o spinUp = true ∧ slotOK S l o spinDown = true :=
  ⟨slotOK_of_findSite hS ha ho (hsp ▸ Nat.one_lt_two), slotOK_of_findSite hS ha ho (hsp ▸ Nat.two_pos)⟩

theorem addLevel_allValid (L L' : Lattice K) (l : String) (lv : K) (hv : allValid L = true)
    (h : addLevel L l lv = .ok L') : allValid L' = true := by
  obtain ⟨hg, hr⟩ := ok_of_guarded h
  obtain ⟨a, ha⟩ := onSite_facts L l hg
  rw [guardEnv_orb1 L l l a ha, guardEnv_spin1 L l l a ha] at hr
  cases hr
  refine (forRange_inv (Inv L.sites) _ _ _ ⟨rfl, hv⟩ (fun L1 i hi h1 => ?_)).2
  refine forRange_inv (Inv L.sites) _ _ _ h1 (fun L2 z hz h2 => ?_)
  exact Inv_ite h2 _ _ (valid_tLevel L.sites l lv i z (slotOK_of_findSite rfl ha hi hz))

theorem addCoulombS_allValid (L L' : Lattice K) (l : String) (U lv : K) (hv : allValid L = true)
    (h : addCoulombS L l U lv = .ok L') : allValid L' = true := by
  obtain ⟨hg, hr⟩ := ok_of_guarded h
  obtain ⟨a, ha⟩ := onSite_facts L l hg
  rw [guardEnv_orb1 L l l a ha, guardEnv_spin1 L l l a ha] at hr
  cases hr
  refine (forRange_inv (Inv L.sites) _ _ _ ⟨rfl, hv⟩ (fun L1 i hi h1 => ?_)).2
  refine forRange_inv (Inv L.sites) _ _ _ h1 (fun L2 z1 hz1 h2 => ?_)
  refine forRange_inv (Inv L.sites) _ _ _ ?_ (fun L3 z2 hz2 h3 => ?_)
  · exact Inv_ite h2 _ _ (valid_tLevel L.sites l lv i z1 (slotOK_of_findSite rfl ha hi hz1))
  · exact Inv_ite h3 _ _ (valid_tNupNdown L.sites l l U i i z1 z2 (slotOK_of_findSite rfl ha hi hz1)
      (slotOK_of_findSite rfl ha hi (Nat.lt_trans hz2 hz1)))

theorem addMagnetization_allValid (L L' : Lattice K) (l : String) (m : K) (hv : allValid L = true)
    (h : addMagnetization L l m = .ok L') : allValid L' = true := by
  obtain ⟨hg, hr⟩ := ok_of_guarded h
  obtain ⟨a, ha, hsp⟩ := magnetization_facts L l hg
  rw [guardEnv_orb1 L l l a ha] at hr
  cases hr
  refine (forRange_inv (Inv L.sites) _ _ _ ⟨rfl, hv⟩ (fun L1 i hi h1 => ?_)).2
  obtain ⟨hup, hdn⟩ := slotOK_spinHalf rfl ha hsp hi
  exact Inv_store (Inv_store h1 _ (valid_tLevel L.sites l _ i spinUp hup)) _
    (valid_tLevel L.sites l _ i spinDown hdn)

theorem addSzSz_inv (S : List Site) (L L' : Lattice K) (l1 l2 : String) (J : K) (hv : Inv S L)
    (h : addSzSz L l1 l2 J = .ok L') : Inv S L' := by
  obtain ⟨hg, hr⟩ := ok_of_guarded h
  obtain ⟨a, b, ha, hb, hnorb, hsp, hsa⟩ := szsz_facts L l1 l2 hg
  rw [guardEnv_orb1 L l1 l2 a ha] at hr
  cases hr
  unfold szszLoop
  refine forRange_inv (Inv S) _ _ _ hv (fun L1 i hi h1 => ?_)
  obtain ⟨a1, a0⟩ := slotOK_spinHalf hv.1 ha hsa hi
  obtain ⟨b1, b0⟩ := slotOK_spinHalf hv.1 hb (hsp ▸ hsa) (hnorb ▸ hi)
  dsimp only
  have h2 := Inv_store (Inv_store h1 _ (valid_tNupNdown S l1 l2 (addSzSz_updown J) i i spinUp spinDown a1 b0)) _
    (valid_tNupNdown S l1 l2 (addSzSz_downup J) i i spinDown spinUp a0 b1)
  split
  · exact Inv_store (Inv_store h2 _ (valid_tNupNdown S l1 l2 _ i i spinUp spinUp a1 b1)) _
      (valid_tNupNdown S l1 l2 _ i i spinDown spinDown a0 b0)
  · exact Inv_store (Inv_store h2 _ (valid_tLevel S l1 _ i spinUp a1)) _ (valid_tLevel S l1 _ i spinDown a0)

theorem addSS_allValid (L L' : Lattice K) (l1 l2 : String) (J : K) (hv : allValid L = true)
    (h : addSS L l1 l2 J = .ok L') : allValid L' = true := by
  obtain ⟨hg, hr⟩ := ok_of_guarded h
  obtain ⟨a, b, ha, hb, h1, h2, h3⟩ := szsz_facts L l1 l2 hg
  rw [guardEnv_orb1 L l1 l2 a ha] at hr
  split at hr
  · cases hr
  · rename_i L1 hL1
    cases hr
    have hv1 := addSzSz_inv L.sites L L1 l1 l2 J ⟨rfl, hv⟩ hL1
    refine (forRange_inv (Inv L.sites) _ _ _ hv1 (fun L2 i hi h4 => ?_)).2
    obtain ⟨a1, a0⟩ := slotOK_spinHalf rfl ha h3 hi
    obtain ⟨b1, b0⟩ := slotOK_spinHalf rfl hb (h2 ▸ h3) (h1 ▸ hi)
    exact Inv_store (Inv_store h4 _ (validS_four a1 a0 b0 b1)) _ (validS_four a0 a1 b1 b0)

theorem addTerm_inv (S : List Site) (L L' : Lattice K) (t : Term K) (hv : Inv S L) (h : addTerm L t = .ok L') :
    Inv S L' := by
  obtain ⟨ht, rfl⟩ := addTerm_ok h
  exact Inv_ite hv _ t (by rw [← hv.1]; exact validTerm_of_validateTerm L t ht)

theorem addHoppingFull_inv (cj : K → K) (S : List Site) (L L' : Lattice K) (l1 l2 : String) (t : K)
    (o1 o2 s1 s2 : Nat) (hv : Inv S L) (h : addHoppingFull cj L l1 l2 t o1 o2 s1 s2 = .ok L') : Inv S L' := by
  have hr := (ok_of_guarded h).2
  simp only [bind, Except.bind] at hr
  split at hr
  · cases hr
  · rename_i L1 hL1
    exact addTerm_inv S L1 L' _ (addTerm_inv S L L1 _ hv hL1) hr

theorem addSzSz_allValid (L L' : Lattice K) (l1 l2 : String) (J : K) (hv : allValid L = true)
    (h : addSzSz L l1 l2 J = .ok L') : allValid L' = true :=
  (addSzSz_inv L.sites L L' l1 l2 J ⟨rfl, hv⟩ h).2

theorem addHoppingFull_allValid (cj : K → K) (L L' : Lattice K) (l1 l2 : String) (t : K) (o1 o2 s1 s2 : Nat)
    (hv : allValid L = true) (h : addHoppingFull cj L l1 l2 t o1 o2 s1 s2 = .ok L') : allValid L' = true :=
  (addHoppingFull_inv cj L.sites L L' l1 l2 t o1 o2 s1 s2 ⟨rfl, hv⟩ h).2

theorem addCoulombP_allValid (L L' : Lattice K) (l : String) (U Up J lv : K) (hv : allValid L = true)
    (h : addCoulombP L l U Up J lv = .ok L') : allValid L' = true := by
  obtain ⟨hg, hr⟩ := ok_of_guarded h
  obtain ⟨a, ha, _, _⟩ := coulombP_facts L l hg
  rw [guardEnv_orb1 L l l a ha, guardEnv_spin1 L l l a ha] at hr
  dsimp only at hr
  have ok : ∀ {o z : Nat}, o < a.norb → z < a.nspin → slotOK L.sites l o z = true :=
    fun ho hz => slotOK_of_findSite rfl ha ho hz
  refine (rangeM_inv (Inv L.sites) _ _ L L' ⟨rfl, hv⟩ (fun L1 i L1' hi h1 hs1 => ?_) hr).2
  refine rangeM_inv (Inv L.sites) _ _ L1 L1' h1 (fun L2 z1 L2' hz1 h2 hs2 => ?_) hs1
  refine rangeM_inv (Inv L.sites) _ _ _ L2' ?_ (fun L3 z2 L3' hz2 h3 hs3 => ?_) hs2
  · refine forRange_inv (Inv L.sites) _ _ _ (Inv_ite h2 _ _ (valid_tLevel L.sites l lv i z1 (ok hi hz1)))
      (fun L4 j hj h4 => ?_)
    exact Inv_ite h4 _ _ (valid_tNupNdown L.sites l l _ i j z1 z1 (ok hi hz1) (ok hj hz1))
  · have hz2' : z2 < a.nspin := Nat.lt_trans hz2 hz1
    refine rangeM_inv (Inv L.sites) _ _ _ L3'
      (Inv_ite h3 _ _ (valid_tNupNdown L.sites l l U i i z1 z2 (ok hi hz1) (ok hi hz2')))
      (fun L5 j L5' hj h5 hs5 => ?_) hs3
    by_cases hij : i ≠ j
    · have h6 := Inv_ite h5 (NonzeroTest.nz Up = true) _
        (valid_tNupNdown L.sites l l Up i j z1 z2 (ok hi hz1) (ok hj hz2'))
      -- `i ≠ j` and `z2 < z1`: neither `Spinflip` nor `PairHopping` throws
      rw [if_pos hij, tSpinflip_of_ne _ _ hij (Nat.ne_of_gt hz2),
        tPairHopping_of_ne _ _ hij (Nat.ne_of_gt hz2)] at hs5
      by_cases hJ : NonzeroTest.nz J = true
      · rw [if_pos hJ] at hs5
        cases hs5
        exact Inv_store (Inv_store h6 _ (validS_four (ok hi hz1) (ok hj hz2') (ok hj hz1) (ok hi hz2'))) _
          (validS_four (ok hi hz1) (ok hi hz2') (ok hj hz1) (ok hj hz2'))
      · rw [if_neg hJ] at hs5
        cases hs5
        exact h6
    · rw [if_neg hij] at hs5
      cases hs5
      exact h5

theorem addHoppingOrb_allValid (cj : K → K) (L L' : Lattice K) (l1 l2 : String) (t : K) (o1 o2 : Nat)
    (hv : allValid L = true) (h : addHoppingOrb cj L l1 l2 t o1 o2 = .ok L') : allValid L' = true := by
  have hr := (ok_of_guarded h).2
  exact (rangeM_inv (Inv L.sites) _ _ L L' ⟨rfl, hv⟩
    (fun L1 z L1' _ h1 hs => addHoppingFull_inv cj _ L1 L1' l1 l2 t o1 o2 z z h1 hs) hr).2

theorem addHoppingAll_allValid (cj : K → K) (L L' : Lattice K) (l1 l2 : String) (t : K)
    (hv : allValid L = true) (h : addHoppingAll cj L l1 l2 t = .ok L') : allValid L' = true := by
  have hr := (ok_of_guarded h).2
  exact (rangeM_inv (Inv L.sites) _ _ L L' ⟨rfl, hv⟩
    (fun L1 z L1' _ h1 hs => rangeM_inv (Inv L.sites) _ _ L1 L1' h1
      (fun L2 i L2' _ h2 hs2 => addHoppingFull_inv cj _ L2 L2' l1 l2 t i i z z h2 hs2) hs) hr).2

theorem storeTerm_keyedByOrder (L : Lattice K) (t : Term K) (h : keyedByOrder L = true) :
    keyedByOrder (storeTerm L t) = true :=
  all_insertTermList (fun n t => t.order == n) _ _ _ h (beq_self_eq_true _)

/-! why `validateTerm_eq_validTerm` (and with it `addTerm_zero`, `addTerm_valid`) needs `SitesOK`: a site list
with a duplicated label (not a `std::map`) -/

section Counterexample
local instance : NonzeroTest Int := ⟨fun x => x != 0⟩
private def Ldup : Lattice Int := ⟨[⟨"a", 1, 1⟩, ⟨"a", 2, 2⟩], [], 0⟩
example : validTerm Ldup (tLevel "a" (1 : Int) 1 1) = true ∧ validateTerm Ldup (tLevel "a" (1 : Int) 1 1) = false := by
  decide
end Counterexample

end Pomerol.Spec.LatticeProps
