/-
  What the index-chasing loops of `Model/Chase.lean` do: `advance` stops at the first index that is not
  below its target, and one iteration of `mergeWalk` either records a common index or lets the iterator
  that is behind catch up.  With the iterator tested first this never reads past the end and terminates
  within the fuel, for EVERY pair of index lists; on strictly increasing lists the walk returns exactly
  the common indices, in order.  Property C17 (`Properties/C17.lean`) states this for the library; the
  walks with values (`Spec/SparseWalk.lean`) are reduced to it.  Core Lean only.
-/
import PomerolModel.Model.Chase

namespace Pomerol.Properties.C17

/-- strictly increasing inner indices (what Eigen's compressed storage guarantees); under the name by
which the statements of property C17 refer to it, here because the walks with values need it too -/
def Sorted (l : List Nat) : Prop := l.Pairwise (· < ·)

end Pomerol.Properties.C17

namespace Pomerol.Spec.ChaseProps
open Pomerol.Model.Chase Pomerol.Properties.C17

theorem advance_spec (l : List Nat) (target : Nat) :
    ∀ fuel pos, pos ≤ l.length → l.length + 1 - pos ≤ fuel →
    ∃ pos', advance true l target fuel pos = .ok pos' ∧ pos ≤ pos' ∧ pos' ≤ l.length ∧
      (∀ k, pos ≤ k → k < pos' → ∃ x, l[k]? = some x ∧ x < target) ∧
      (pos' < l.length → ∃ x, l[pos']? = some x ∧ ¬ x < target) := by
  intro fuel
  induction fuel with
  | zero => intro pos hp hf; omega
  | succ fuel ih =>
    intro pos hp hf
    by_cases hge : pos ≥ l.length
    · refine ⟨pos, ?_, Nat.le_refl _, hp, ?_, ?_⟩
      · simp [advance, hge]
      · intro k h1 h2; exact absurd h2 (Nat.not_lt.mpr h1)
      · intro h; exact absurd h (Nat.not_lt.mpr hge)
    · have hlt : pos < l.length := Nat.lt_of_not_le hge
      have hget : l[pos]? = some l[pos] := List.getElem?_eq_getElem hlt
      by_cases hx : l[pos] < target
      · -- fuel: `n - (pos + 1)` is `pred (n - pos)` by definition, and `pred (fuel + 1)` is `fuel`
        obtain ⟨pos', h1, h2, h3, h4, h5⟩ := ih (pos + 1) hlt (Nat.pred_le_pred hf)
        refine ⟨pos', ?_, Nat.le_of_succ_le h2, h3, ?_, h5⟩
        · rw [advance]
          simp only [hge, decide_false, Bool.and_false, Bool.false_eq_true, if_false, indexAt,
            hget, hx, if_true]
          exact h1
        · intro k hk1 hk2
          by_cases hk : k = pos
          · subst hk; exact ⟨_, hget, hx⟩
          · exact h4 k (Nat.lt_of_le_of_ne hk1 (Ne.symm hk)) hk2
      · refine ⟨pos, ?_, Nat.le_refl _, hp, ?_, ?_⟩
        · rw [advance]
          simp only [hge, decide_false, Bool.and_false, Bool.false_eq_true, if_false, indexAt,
            hget, hx]
        · intro k h1 h2; exact absurd h2 (Nat.not_lt.mpr h1)
        · intro _; exact ⟨_, hget, hx⟩

/-- with the fuel `mergeWalk` gives it -/
theorem advance_progress (l : List Nat) (target pos y : Nat) (hy : l[pos]? = some y)
    (hlt : y < target) :
    ∃ pos', advance true l target (l.length + 1) pos = .ok pos' ∧ pos < pos' ∧ pos' ≤ l.length ∧
      (∀ k, pos ≤ k → k < pos' → ∃ x, l[k]? = some x ∧ x < target) ∧
      (pos' < l.length → ∃ x, l[pos']? = some x ∧ ¬ x < target) := by
  have hpl := (List.getElem?_eq_some_iff.1 hy).1
  obtain ⟨pos', h1, h2, h3, h4, h5⟩ :=
    advance_spec l target (l.length + 1) pos (Nat.le_of_lt hpl) (Nat.sub_le _ _)
  refine ⟨pos', h1, ?_, h3, h4, h5⟩
  rcases Nat.lt_or_ge pos pos' with h | h
  · exact h
  · have he : pos' = pos := Nat.le_antisymm h h2
    subst he
    obtain ⟨x, hx, hnx⟩ := h5 hpl
    rw [hy] at hx
    cases hx
    exact absurd hlt hnx

theorem not_stop {α β : Type} {a : List α} {b : List β} {pa pb : Nat} (h1 : pa < a.length)
    (h2 : pb < b.length) : ¬ (pa ≥ a.length ∨ pb ≥ b.length) :=
  not_or.mpr ⟨Nat.not_le.mpr h1, Nat.not_le.mpr h2⟩

theorem mergeWalk_stop (g : Bool) (a b : List Nat) (fuel pa pb : Nat) (acc : List Nat)
    (h : pa ≥ a.length ∨ pb ≥ b.length) : mergeWalk g a b (fuel + 1) pa pb acc = .ok acc := by
  rw [mergeWalk, if_pos h]

theorem mergeWalk_eq (g : Bool) (a b : List Nat) (fuel pa pb : Nat) (acc : List Nat) (x : Nat)
    (hx : a[pa]? = some x) (hy : b[pb]? = some x) :
    mergeWalk g a b (fuel + 1) pa pb acc = mergeWalk g a b fuel (pa + 1) (pb + 1) (acc ++ [x]) := by
  have h1 := (List.getElem?_eq_some_iff.1 hx).1
  have h2 := (List.getElem?_eq_some_iff.1 hy).1
  rw [mergeWalk, if_neg (not_stop h1 h2)]
  simp only [indexAt, hx, hy, if_true]

/-- `_lt` / `_gt` follow the branches of the model's `if y < x`: here `b` is behind and catches up -/
theorem mergeWalk_lt (g : Bool) (a b : List Nat) (fuel pa pb : Nat) (acc : List Nat) (x y pb' : Nat)
    (hx : a[pa]? = some x) (hy : b[pb]? = some y) (hlt : y < x)
    (hadv : advance g b x (b.length + 1) pb = .ok pb') :
    mergeWalk g a b (fuel + 1) pa pb acc = mergeWalk g a b fuel pa pb' acc := by
  have h1 := (List.getElem?_eq_some_iff.1 hx).1
  have h2 := (List.getElem?_eq_some_iff.1 hy).1
  have hne : ¬ x = y := Nat.ne_of_gt hlt
  rw [mergeWalk, if_neg (not_stop h1 h2)]
  simp only [indexAt, hx, hy, hne, if_false, hlt, if_true, hadv]

theorem mergeWalk_gt (g : Bool) (a b : List Nat) (fuel pa pb : Nat) (acc : List Nat) (x y pa' : Nat)
    (hx : a[pa]? = some x) (hy : b[pb]? = some y) (hlt : x < y)
    (hadv : advance g a y (a.length + 1) pa = .ok pa') :
    mergeWalk g a b (fuel + 1) pa pb acc = mergeWalk g a b fuel pa' pb acc := by
  have h1 := (List.getElem?_eq_some_iff.1 hx).1
  have h2 := (List.getElem?_eq_some_iff.1 hy).1
  have hne : ¬ x = y := Nat.ne_of_lt hlt
  have hnlt : ¬ y < x := Nat.lt_asymm hlt
  rw [mergeWalk, if_neg (not_stop h1 h2)]
  simp only [indexAt, hx, hy, hne, if_false, hnlt, hadv]

private theorem drop_cons_of_getElem? {l : List Nat} {p x : Nat} (h : l[p]? = some x) :
    l.drop p = x :: l.drop (p + 1) := by
  obtain ⟨hp, rfl⟩ := List.getElem?_eq_some_iff.1 h
  exact List.drop_eq_getElem_cons hp

private theorem filter_drop_skip (l : List Nat) (p : Nat → Bool) (n : Nat) :
    ∀ m, n ≤ m → (∀ k, n ≤ k → k < m → ∃ x, l[k]? = some x ∧ p x = false) →
      (l.drop n).filter p = (l.drop m).filter p := by
  intro m hnm
  induction hnm with
  | refl => intro _; rfl
  | @step m hnm ih =>
    intro h
    obtain ⟨x, hx, hpx⟩ := h m hnm (Nat.lt_succ_self m)
    rw [ih fun k hk1 hk2 => h k hk1 (Nat.lt_succ_of_lt hk2), drop_cons_of_getElem? hx,
      List.filter_cons, hpx]
    rfl  -- `if false = true then x :: _ else l` reduces to `l`

private theorem sorted_drop_succ_gt {l : List Nat} (hl : Sorted l) {n x z : Nat} (hx : l[n]? = some x)
    (hz : z ∈ l.drop (n + 1)) : x < z := by
  have hs : (l.drop n).Pairwise (· < ·) := List.Pairwise.drop hl
  rw [drop_cons_of_getElem? hx, List.pairwise_cons] at hs
  exact hs.1 z hz

private theorem sorted_drop_ge {l : List Nat} (hl : Sorted l) {n x z : Nat} (hx : l[n]? = some x)
    (hz : z ∈ l.drop n) : x ≤ z := by
  rw [drop_cons_of_getElem? hx] at hz
  rcases List.mem_cons.mp hz with h | h
  · exact Nat.le_of_eq h.symm
  · exact Nat.le_of_lt (sorted_drop_succ_gt hl hx h)

/-- ONE ITERATION with both iterators valid: the walk continues from positions that are in range and
strictly closer to the ends (for every pair of lists); and for sorted lists the indices already collected
followed by the common indices still ahead are the same before and after. -/
theorem mergeWalk_step (a b : List Nat) (fuel pa pb : Nat) (acc : List Nat) (h1 : pa < a.length)
    (h2 : pb < b.length) :
    ∃ pa' pb' acc', mergeWalk true a b (fuel + 1) pa pb acc = mergeWalk true a b fuel pa' pb' acc' ∧
      pa' ≤ a.length ∧ pb' ≤ b.length ∧
      pa + pb < pa' + pb' ∧
      (Sorted a → Sorted b →
        acc' ++ (a.drop pa').filter (fun z => decide (z ∈ b.drop pb'))
          = acc ++ (a.drop pa).filter (fun z => decide (z ∈ b.drop pb))) := by
  have hx : a[pa]? = some a[pa] := List.getElem?_eq_getElem h1
  have hy : b[pb]? = some b[pb] := List.getElem?_eq_getElem h2
  rcases Nat.lt_trichotomy a[pa] b[pb] with hlt | heq | hgt
  · -- a[pa] < b[pb]: skip the elements of `a` below `b[pb]`; none of them occurs in `b.drop pb`
    obtain ⟨pa', hadv, hp1, hp2, hskip, _⟩ := advance_progress a b[pb] pa a[pa] hx hlt
    refine ⟨pa', pb, acc, mergeWalk_gt true a b fuel pa pb acc _ _ pa' hx hy hlt hadv, hp2,
      Nat.le_of_lt h2, Nat.add_lt_add_right hp1 pb, fun _ hb => ?_⟩
    rw [← filter_drop_skip a _ pa pa' (Nat.le_of_lt hp1)]
    intro k hk1 hk2
    obtain ⟨x, hxk, hxlt⟩ := hskip k hk1 hk2
    refine ⟨x, hxk, ?_⟩
    rw [decide_eq_false_iff_not]
    exact fun hmem => Nat.not_lt.mpr (sorted_drop_ge hb hy hmem) hxlt
  · -- common element
    rw [← heq] at hy
    refine ⟨pa + 1, pb + 1, acc ++ [a[pa]], mergeWalk_eq true a b fuel pa pb acc _ hx hy,
      h1, h2, by omega, fun ha _ => ?_⟩
    rw [drop_cons_of_getElem? hx, List.filter_cons]
    have hin : a[pa] ∈ b.drop pb := by
      rw [drop_cons_of_getElem? hy]; exact List.mem_cons_self
    simp only [hin, decide_true, if_true, List.append_assoc, List.singleton_append]
    congr 2
    apply List.filter_congr
    intro z hz
    have hzgt := sorted_drop_succ_gt ha hx hz
    rw [drop_cons_of_getElem? hy]
    have hne : ¬ z = a[pa] := Nat.ne_of_gt hzgt
    simp [List.mem_cons, hne]
  · -- b[pb] < a[pa]: skip the elements of `b` below `a[pa]`; no remaining element of `a` is among them
    obtain ⟨pb', hadv, hp1, hp2, hskip, _⟩ := advance_progress b a[pa] pb b[pb] hy hgt
    refine ⟨pa, pb', acc, mergeWalk_lt true a b fuel pa pb acc _ _ pb' hx hy hgt hadv,
      Nat.le_of_lt h1, hp2, Nat.add_lt_add_left hp1 pa, fun ha _ => ?_⟩
    congr 1
    apply List.filter_congr
    intro z hz
    have hzge := sorted_drop_ge ha hx hz
    -- membership of `z` is a filter too, and the skipped elements of `b` are below `a[pa] ≤ z`
    have hmem : ∀ l : List Nat, z ∈ l ↔ z ∈ l.filter (· == z) := fun l => by
      rw [List.mem_filter, beq_self_eq_true]; exact (and_iff_left rfl).symm
    rw [decide_eq_decide, hmem (b.drop pb), hmem (b.drop pb'),
      filter_drop_skip b _ pb pb' (Nat.le_of_lt hp1)]
    intro k hk1 hk2
    obtain ⟨x, hxk, hxlt⟩ := hskip k hk1 hk2
    exact ⟨x, hxk, beq_false_of_ne (Nat.ne_of_lt (Nat.lt_of_lt_of_le hxlt hzge))⟩

theorem mergeWalk_spec (a b : List Nat) :
    ∀ fuel pa pb acc, pa ≤ a.length → pb ≤ b.length → a.length + b.length < fuel + (pa + pb) →
      ∃ r, mergeWalk true a b fuel pa pb acc = .ok r ∧
        (Sorted a → Sorted b → r = acc ++ (a.drop pa).filter (fun z => decide (z ∈ b.drop pb))) := by
  intro fuel
  induction fuel with
  | zero => intro pa pb acc _ _ h; omega
  | succ fuel ih =>
    intro pa pb acc hpa hpb hm
    by_cases hstop : pa ≥ a.length ∨ pb ≥ b.length
    · refine ⟨acc, mergeWalk_stop _ _ _ _ _ _ _ hstop, fun _ _ => ?_⟩
      rcases hstop with h | h <;> simp [List.drop_eq_nil_of_le h]
    · rw [not_or, Nat.not_le, Nat.not_le] at hstop
      obtain ⟨pa', pb', acc', hstep, h1, h2, hlt, hsame⟩ :=
        mergeWalk_step a b fuel pa pb acc hstop.1 hstop.2
      obtain ⟨r, hr, hcommon⟩ := ih pa' pb' acc' h1 h2 (by omega)
      exact ⟨r, hstep.trans hr, fun ha hb => (hcommon ha hb).trans (hsame ha hb)⟩

theorem commonIndices_sorted (a b : List Nat) (ha : Sorted a) (hb : Sorted b) :
    commonIndices true a b = .ok (a.filter (· ∈ b)) := by
  obtain ⟨r, hr, hcommon⟩ := mergeWalk_spec a b (a.length + b.length + 1) 0 0 [] (Nat.zero_le _)
    (Nat.zero_le _) (by omega)
  unfold commonIndices
  rw [hr, hcommon ha hb]
  simp

end Pomerol.Spec.ChaseProps
