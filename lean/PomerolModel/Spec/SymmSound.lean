/-
  Soundness of `Symmetrizer::checkSymmetry` (model `checkSymmetry`) with exact coefficient tests
  over a field: an accepted operator commutes with H, is diagonal in the Fock basis, H has no matrix
  element between Fock states with different diagonal values ("quantum numbers"), and the operator
  is additive under `c†_i`, `c_i`, `c†_i c_j` (the single-target property used by `FieldOperator`).
-/
import PomerolModel.Spec.OpAlgebra
import PomerolModel.Model.Symm
import Mathlib.Tactic.LinearCombination

namespace Pomerol.Spec.SymmSound
open Pomerol.Model Pomerol.Model.Symm Pomerol.Spec
open scoped Pomerol.Spec.Exact

theorem except_bind_eq_ok {ε α β : Type} (x : Except ε α) (g : α → Except ε β) (b : β)
    (h : x >>= g = .ok b) : ∃ a, x = .ok a ∧ g a = .ok b := by
  cases x with
  | error e => cases h
  | ok a => exact ⟨a, rfl, h⟩

/-- the short-circuiting `for` loops of `checkSymmetry` -/
theorem foldlM_all_ok {α ε : Type} (f : α → Except ε Bool) (l : List α) :
    ∀ b, l.foldlM (fun (ok : Bool) a => if !ok then pure false else f a) b = .ok true →
      b = true ∧ ∀ a ∈ l, f a = .ok true := by
  induction l with
  | nil =>
    intro b h
    simp only [List.foldlM_nil] at h
    cases h
    exact ⟨rfl, fun a ha => by cases ha⟩
  | cons x l ih =>
    intro b h
    rw [List.foldlM_cons] at h
    obtain ⟨b', h1, h2⟩ := except_bind_eq_ok _ _ _ h
    obtain ⟨hb', hl⟩ := ih b' h2
    subst hb'
    cases b with
    | false => cases h1
    | true =>
      refine ⟨rfl, ?_⟩
      intro a ha
      rcases List.mem_cons.mp ha with rfl | ha
      · exact h1
      · exact hl a ha

section
variable {K : Type} [Add K] [Sub K] [Mul K] [Neg K] [One K] [CoefTest K]

theorem check_extract (H op : Poly K) (M : Nat) (h : checkSymmetry H M op = .ok true) :
    Poly.commutes true H op = some true ∧
    (∀ i, i < M → Poly.commutes true (opN i) op = some true) ∧
    (∀ i, i < M → ∃ comm, Poly.commutator op (opCdag i) = some comm ∧
      ∀ mc ∈ comm, mc.1 = [⟨false, i⟩]) := by
  unfold checkSymmetry at h
  simp only [Pomerol.Gen.Core.eqLengthTest, Pomerol.Gen.Core.additivityTest] at h
  split at h
  · cases h
  · cases h
  · rename_i hH
    obtain ⟨ok1, h1, h2⟩ := except_bind_eq_ok _ _ _ h
    -- the first loop answered `true`, or the result would be `false`
    obtain rfl : ok1 = true := by
      cases ok1 with
      | true => rfl
      | false => cases h2
    simp only [Bool.not_true, Bool.or_self, Bool.false_eq_true, if_false] at h2
    obtain ⟨-, hN⟩ := foldlM_all_ok _ _ _ h1
    obtain ⟨-, hC⟩ := foldlM_all_ok _ _ _ h2
    refine ⟨hH, fun i hi => ?_, fun i hi => ?_⟩
    · have := hN i (List.mem_range.mpr hi)
      split at this
      · cases this
      · rename_i b hb
        cases this
        exact hb
    · have := hC i (List.mem_range.mpr hi)
      split at this
      · cases this
      · rename_i comm hcomm
        refine ⟨comm, hcomm, fun mc hmc => ?_⟩
        exact eq_of_beq (List.all_eq_true.mp (Except.ok.inj this) mc hmc)

end

section
variable {K : Type}

def ModesLt (M : Nat) (p : Poly K) : Prop := ∀ mc ∈ p, ∀ o ∈ mc.1, o.idx < M

end

theorem actMono_high_bits (M : Nat) (m : Mono) (hm : ∀ o ∈ m, o.idx < M) (s s' : Nat) (neg : Bool)
    (h : actMono m s = some (s', neg)) (j : Nat) (hj : M ≤ j) : s'.testBit j = s.testBit j := by
  induction m generalizing s' neg with
  | nil =>
    simp only [actMono, Option.some.injEq, Prod.mk.injEq] at h
    rw [h.1]
  | cons o rest ih =>
    obtain ⟨s1, n1, n2, h1, h2⟩ := actMono_cons_some h
    have hrest := ih (fun o' ho' => hm o' (List.mem_cons_of_mem _ ho')) s1 n1 h1
    obtain ⟨-, hs'⟩ := actOp_some h2
    have ho : o.idx < M := hm o List.mem_cons_self
    rw [hs', testBit_flipBit, if_neg (Nat.ne_of_lt (Nat.lt_of_lt_of_le ho hj)), hrest]

section
variable {K : Type} [CommRing K]

theorem _root_.Pomerol.Spec.IsDiag.comm_apply {D F : Module.End K (Nat →₀ K)} {q : Nat → K}
    (hd : IsDiag D q) (hc : F * D = D * F) (s t : Nat) :
    F (Finsupp.single s 1) t * q s = q t * F (Finsupp.single s 1) t := by
  rw [← hd.mul_apply, hc, hd.apply_mul]

theorem _root_.Pomerol.Spec.isDiag_of_offdiag {F : Module.End K (Nat →₀ K)}
    (h : ∀ s t, t ≠ s → F (Finsupp.single s 1) t = 0) :
    IsDiag F (fun s => F (Finsupp.single s 1) s) := by
  intro s
  ext t
  rw [Finsupp.smul_single, smul_eq_mul, mul_one, Finsupp.single_apply]
  split
  · next hst => rw [hst]
  · next hst => exact h s t (Ne.symm hst)

theorem _root_.Pomerol.Spec.IsDiag.shift {D C : Module.End K (Nat →₀ K)} {q : Nat → K}
    (hd : IsDiag D q) {a : K} (hcomm : D * C - C * D = a • C) {s t : Nat} {σ : K}
    (hσ : σ * σ = 1) (hC : C (Finsupp.single s 1) = Finsupp.single t σ) : q t = q s + a := by
  have h := congrArg (fun F : Module.End K (Nat →₀ K) => F (Finsupp.single s 1) t) hcomm
  simp only [LinearMap.sub_apply, LinearMap.smul_apply, Finsupp.sub_apply, Finsupp.smul_apply,
    hd.apply_mul, hd.mul_apply, hC, Finsupp.single_eq_same, smul_eq_mul] at h
  linear_combination σ * h - (q t - q s - a) * hσ

theorem list_sum_apply_ne_zero {ι : Type} (l : List ι) (f : ι → Nat →₀ K) (t : Nat)
    (h : (l.map f).sum t ≠ 0) : ∃ x ∈ l, f x t ≠ 0 := by
  -- evaluation at `t` is additive, so it goes through the sum of the list
  rw [← Finsupp.applyAddHom_apply, map_list_sum, List.map_map] at h
  obtain ⟨y, hy, hne⟩ := List.exists_mem_ne_zero_of_sum_ne_zero h
  obtain ⟨x, hx, rfl⟩ := List.mem_map.1 hy
  exact ⟨x, hx, hne⟩

theorem poly_apply_ne_zero (p : Poly K) (s t : Nat)
    (h : ((jwRep K).poly p (Finsupp.single s 1)) t ≠ 0) :
    ∃ mc ∈ p, ∃ neg, actMono mc.1 s = some (t, neg) := by
  rw [poly_apply] at h
  obtain ⟨mc, hmc, h1⟩ := list_sum_apply_ne_zero p _ t h
  refine ⟨mc, hmc, ?_⟩
  cases ha : actMono mc.1 s with
  | none => rw [amp_none ha] at h1; simp at h1
  | some q =>
    rw [amp_some ha, Finsupp.smul_apply, Finsupp.single_apply] at h1
    exact ⟨q.2, by rw [← (ite_ne_right_iff.mp (right_ne_zero_of_smul h1)).1]⟩

theorem cdag_single (i s : Nat) (hsi : s.testBit i = false) :
    (jwRep K).cd i (Finsupp.single s 1) =
      Finsupp.single (flipBit s i) (sgn K (lowParity s i)) := by
  change jwOp K ⟨false, i⟩ _ = _
  rw [jwOp_single, one_smul, jwVec_eq]
  simp [hsi]

theorem bool_eq_of_ite_mul [Nontrivial K] {x : K} (hx : x ≠ 0) {a b : Bool}
    (h : x * (if a then 1 else 0) = (if b then 1 else 0) * x) : b = a := by
  cases a <;> cases b <;> simp_all

variable [DecidableEq K] [Nontrivial K]

/-- the `n_i`, `i < M`, separate the Fock states that an operator on modes `< M` can connect -/
theorem isDiag_of_commutes_opN (M : Nat) (op : Poly K) (hm : ModesLt M op)
    (hN : ∀ i, i < M → Poly.commutes true (opN i) op = some true) :
    IsDiag ((jwRep K).poly op) (fun s => matrixElement op s s) := by
  refine (isDiag_of_offdiag fun s t hts => ?_).congr fun s => (matrixElement_sem op s s).symm
  by_contra hne
  refine hts (Nat.eq_of_testBit_eq fun j => ?_)
  by_cases hj : j < M
  · -- `x * [s_j] = [t_j] * x` with `x ≠ 0`
    exact bool_eq_of_ite_mul hne ((opN_sem j).comm_apply
      (commutes_sem (jwRep K) (jw_sq_c K) (jw_sq_cd K) (opN j) op (hN j hj)).symm s t)
  · obtain ⟨mc, hmc, neg, ha⟩ := poly_apply_ne_zero op s t hne
    exact actMono_high_bits M mc.1 (hm mc hmc) s t neg ha j (Nat.le_of_not_lt hj)

end

section
variable {K A : Type} [CommRing K] [DecidableEq K] [Ring A] [Algebra K A]

/-- what the additivity test of `checkSymmetry` establishes, in every representation:
`[op, c†_i] = a • c†_i` -/
theorem additivity_sem (r : CARRep K A) (hc : ∀ i, r.c i * r.c i = 0)
    (hcd : ∀ i, r.cd i * r.cd i = 0) (op comm : Poly K) (i : Nat)
    (hcomm : Poly.commutator op (opCdag i) = some comm)
    (hkeys : ∀ mc ∈ comm, mc.1 = [⟨false, i⟩]) :
    r.poly op * r.cd i - r.cd i * r.poly op = (comm.map (·.2)).sum • r.cd i := by
  rw [← poly_opCdag, ← commutator_sem r hc hcd _ _ _ hcomm, poly_same_key r _ comm hkeys,
    poly_opCdag, mono_cons, mono_nil, mul_one]
  rfl

end

section
variable {K : Type} [Field K] [DecidableEq K]

theorem accepted_commutes_H (H op : Poly K) (M : Nat) (h : checkSymmetry H M op = .ok true) :
    (jwRep K).poly H * (jwRep K).poly op = (jwRep K).poly op * (jwRep K).poly H :=
  commutes_sem (jwRep K) (jw_sq_c K) (jw_sq_cd K) H op (check_extract H op M h).1

theorem accepted_isDiag (H op : Poly K) (M : Nat) (hm : ModesLt M op)
    (h : checkSymmetry H M op = .ok true) :
    IsDiag ((jwRep K).poly op) (fun s => matrixElement op s s) :=
  isDiag_of_commutes_opN M op hm (check_extract H op M h).2.1

theorem H_block_diagonal (H op : Poly K) (M : Nat) (hmH : ModesLt M H) (hm : ModesLt M op)
    (h : checkSymmetry H M op = .ok true) (s t : Nat) (hs : s < 2 ^ M) (ht : t < 2 ^ M)
    (hne : matrixElement H t s ≠ 0) : matrixElement op s s = matrixElement op t t := by
  have _ := hmH; have _ := hs; have _ := ht  -- not needed for the proof
  have hd := accepted_isDiag H op M hm h
  have hc := hd.comm_apply (accepted_commutes_H H op M h) s t
  rw [← matrixElement_sem] at hc
  -- `x * q s = q t * x` with `x = ⟨t|H|s⟩ ≠ 0`
  exact mul_left_cancel₀ hne (hc.trans (mul_comm _ _))

/-- SINGLE TARGET: the quantum number of an accepted integral shifts by a constant under `c†_i`
(hence under `c_i` and `c†_i c_j`), so the quantum numbers of the image of a state are determined
by the quantum numbers of the state.  (`_all` here and below: for all Fock states, without the
bounds `s < 2 ^ M` that the statements of C07 carry.) -/
theorem shift_cdag_all (H op : Poly K) (M : Nat) (hm : ModesLt M op)
    (h : checkSymmetry H M op = .ok true) (i : Nat) (hi : i < M) :
    ∃ a : K, ∀ s, s.testBit i = false →
      matrixElement op (flipBit s i) (flipBit s i) = matrixElement op s s + a := by
  obtain ⟨-, -, hC⟩ := check_extract H op M h
  obtain ⟨comm, hcomm, hkeys⟩ := hC i hi
  have h1 := additivity_sem (jwRep K) (jw_sq_c K) (jw_sq_cd K) op comm i hcomm hkeys
  exact ⟨_, fun s hsi => (accepted_isDiag H op M hm h).shift h1 (sgn_mul_self _)
    (cdag_single i s hsi)⟩

theorem single_target_cdag_all (H op : Poly K) (M : Nat) (hm : ModesLt M op)
    (h : checkSymmetry H M op = .ok true) (i : Nat) (hi : i < M)
    (s t : Nat) (hsi : s.testBit i = false) (hti : t.testBit i = false)
    (hq : matrixElement op s s = matrixElement op t t) :
    matrixElement op (flipBit s i) (flipBit s i) =
      matrixElement op (flipBit t i) (flipBit t i) := by
  obtain ⟨a, ha⟩ := shift_cdag_all H op M hm h i hi
  rw [ha s hsi, ha t hti, hq]

theorem single_target_c_all (H op : Poly K) (M : Nat) (hm : ModesLt M op)
    (h : checkSymmetry H M op = .ok true) (i : Nat) (hi : i < M)
    (s t : Nat) (hsi : s.testBit i = true) (hti : t.testBit i = true)
    (hq : matrixElement op s s = matrixElement op t t) :
    matrixElement op (flipBit s i) (flipBit s i) =
      matrixElement op (flipBit t i) (flipBit t i) := by
  obtain ⟨a, ha⟩ := shift_cdag_all H op M hm h i hi
  have hs' : (flipBit s i).testBit i = false := by rw [testBit_flipBit, if_pos rfl, hsi]; rfl
  have ht' : (flipBit t i).testBit i = false := by rw [testBit_flipBit, if_pos rfl, hti]; rfl
  have h1 := ha _ hs'
  have h2 := ha _ ht'
  rw [flipBit_flipBit] at h1 h2
  -- `q s' + a = q s = q t = q t' + a` for the flipped states `s'`, `t'`
  exact add_right_cancel (h1.symm.trans (hq.trans h2))

theorem single_target_quadratic (H op : Poly K) (M : Nat) (hm : ModesLt M op)
    (h : checkSymmetry H M op = .ok true)
    (i j : Nat) (hi : i < M) (hj : j < M) (hij : i ≠ j) (s t : Nat)
    (hs1 : s.testBit j = true ∧ s.testBit i = false)
    (ht1 : t.testBit j = true ∧ t.testBit i = false)
    (hq : matrixElement op s s = matrixElement op t t) :
    matrixElement op (flipBit (flipBit s j) i) (flipBit (flipBit s j) i) =
      matrixElement op (flipBit (flipBit t j) i) (flipBit (flipBit t j) i) := by
  have h1 := single_target_c_all H op M hm h j hj s t hs1.1 ht1.1 hq
  have hs' : (flipBit s j).testBit i = false := by
    rw [testBit_flipBit, if_neg (fun e => hij e.symm), hs1.2]
  have ht' : (flipBit t j).testBit i = false := by
    rw [testBit_flipBit, if_neg (fun e => hij e.symm), ht1.2]
  exact single_target_cdag_all H op M hm h i hi _ _ hs' ht' h1

end

end Pomerol.Spec.SymmSound
