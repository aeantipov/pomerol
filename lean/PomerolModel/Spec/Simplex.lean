/-
  Closed form of the time-ordered simplex integral underlying the two-particle Green's function
  (Hafermann et al. multi-term), in all four resonance classes.  The three nested integrals are done from
  the inside: `expInt` and `expInt2` in closed form for a vanishing and for a non-vanishing exponent, then
  `simplexIntegral_eq`; `simplex_core` puts them together.
-/
import Mathlib.Analysis.SpecialFunctions.Integrals.Basic
import Mathlib.MeasureTheory.Integral.IntervalIntegral.FundThmCalculus
import Mathlib.Analysis.SpecialFunctions.Exp
import Mathlib.Tactic.Ring
import Mathlib.Tactic.FieldSimp
import Mathlib.Tactic.Linarith
import Mathlib.Tactic.LinearCombination

namespace Pomerol.Spec
open Complex

noncomputable def expInt (a : ℂ) (t : ℝ) : ℂ := ∫ τ in (0:ℝ)..t, Complex.exp (a * (τ:ℂ))

theorem expInt_ne {a : ℂ} (ha : a ≠ 0) (t : ℝ) :
    expInt a t = (Complex.exp (a * t) - 1) / a := by
  unfold expInt
  rw [integral_exp_mul_complex ha]
  simp

theorem expInt_zero (t : ℝ) : expInt 0 t = t := by
  unfold expInt
  simp

theorem expInt_continuous (a : ℂ) : Continuous (fun t : ℝ => expInt a t) := by
  by_cases ha : a = 0
  · subst ha
    simp only [expInt_zero]
    exact Complex.continuous_ofReal
  · simp only [expInt_ne ha]
    fun_prop

noncomputable def expInt2 (a b : ℂ) (t : ℝ) : ℂ :=
  ∫ τ in (0:ℝ)..t, Complex.exp (a * (τ:ℂ)) * expInt b τ

theorem expInt2_ne (a : ℂ) {b : ℂ} (hb : b ≠ 0) (t : ℝ) :
    expInt2 a b t = (expInt (a + b) t - expInt a t) / b := by
  have h : ∀ τ : ℝ, Complex.exp (a * (τ:ℂ)) * expInt b τ
      = (Complex.exp ((a + b) * (τ:ℂ)) - Complex.exp (a * (τ:ℂ))) / b := by
    intro τ
    rw [expInt_ne hb, add_mul, Complex.exp_add, ← mul_div_assoc, mul_sub, mul_one]
  unfold expInt2
  simp_rw [h]
  rw [intervalIntegral.integral_div, intervalIntegral.integral_sub]
  · rfl
  · exact (by fun_prop : Continuous fun τ : ℝ => Complex.exp ((a + b) * (τ:ℂ))).intervalIntegrable _ _
  · exact (by fun_prop : Continuous fun τ : ℝ => Complex.exp (a * (τ:ℂ))).intervalIntegrable _ _

theorem expInt2_zero {a : ℂ} (ha : a ≠ 0) (t : ℝ) :
    expInt2 a 0 t = ((t:ℂ) / a - 1 / a ^ 2) * Complex.exp (a * t) + 1 / a ^ 2 := by
  have hd : ∀ τ : ℝ, HasDerivAt (fun x : ℝ => ((x:ℂ) / a - 1 / a ^ 2) * Complex.exp (a * (x:ℂ)))
      (Complex.exp (a * (τ:ℂ)) * (τ:ℂ)) τ := by
    intro τ
    have h1 : HasDerivAt (fun z : ℂ => (z / a - 1 / a ^ 2) * Complex.exp (a * z))
        (1 / a * Complex.exp (a * (τ:ℂ))
          + ((τ:ℂ) / a - 1 / a ^ 2) * (Complex.exp (a * (τ:ℂ)) * (a * 1))) (τ:ℂ) := by
      have h2 := ((hasDerivAt_id (τ:ℂ)).div_const a).sub_const (1 / a ^ 2)
      have h3 := ((hasDerivAt_id (τ:ℂ)).const_mul a).cexp
      exact h2.mul h3
    have h4 := h1.comp_ofReal
    convert h4 using 1
    field_simp
    ring
  unfold expInt2
  simp_rw [expInt_zero]
  rw [intervalIntegral.integral_eq_sub_of_hasDerivAt (fun τ _ => hd τ)]
  · simp
  · exact (by fun_prop : Continuous fun τ : ℝ => Complex.exp (a * (τ:ℂ)) * (τ:ℂ)).intervalIntegrable _ _

theorem expInt2_continuous (a b : ℂ) : Continuous (fun t : ℝ => expInt2 a b t) := by
  unfold expInt2
  apply intervalIntegral.continuous_primitive
  intro x y
  exact (Continuous.mul (by fun_prop) (expInt_continuous b)).intervalIntegrable _ _

noncomputable def simplexIntegral (β : ℝ) (a1 a2 a3 : ℂ) : ℂ :=
  ∫ τ1 in (0:ℝ)..β, Complex.exp (a1 * (τ1:ℂ)) *
    ∫ τ2 in (0:ℝ)..τ1, Complex.exp (a2 * (τ2:ℂ)) *
      ∫ τ3 in (0:ℝ)..τ2, Complex.exp (a3 * (τ3:ℂ))

theorem simplexIntegral_eq (β : ℝ) (a1 a2 : ℂ) {a3 : ℂ} (h3 : a3 ≠ 0) :
    simplexIntegral β a1 a2 a3 = (expInt2 a1 (a2 + a3) β - expInt2 a1 a2 β) / a3 := by
  have h : ∀ τ : ℝ, Complex.exp (a1 * (τ:ℂ)) * expInt2 a2 a3 τ
      = (Complex.exp (a1 * (τ:ℂ)) * expInt (a2 + a3) τ
          - Complex.exp (a1 * (τ:ℂ)) * expInt a2 τ) / a3 := by
    intro τ
    rw [expInt2_ne a2 h3]
    ring
  change ∫ τ in (0:ℝ)..β, Complex.exp (a1 * (τ:ℂ)) * expInt2 a2 a3 τ = _
  simp_rw [h]
  rw [intervalIntegral.integral_div, intervalIntegral.integral_sub]
  · rfl
  · exact (Continuous.mul (by fun_prop) (expInt_continuous _)).intervalIntegrable _ _
  · exact (Continuous.mul (by fun_prop) (expInt_continuous _)).intervalIntegrable _ _

/-- the library's multi-term (coefficient 1): two non-resonant and two (possibly) resonant terms -/
noncomputable def multiTerm (β : ℝ) (z1 z2 z3 : ℂ) (P1 P2 P3 : ℝ) (wi wj wk wl : ℝ) : ℂ :=
  (-((wj:ℂ) + wk)) / ((z1 - P1) * (z2 - P2) * (z3 - P3))
  + ((wi:ℂ) + wl) / ((z1 - P1) * (z1 + z2 + z3 - P1 - P2 - P3) * (z3 - P3))
  + (if z1 + z2 - P1 - P2 = 0 then (β:ℂ) * wi else ((wk:ℂ) - wi) / (z1 + z2 - P1 - P2)) / ((z1 - P1) * (z3 - P3))
  + (if z2 + z3 - P2 - P3 = 0 then -((β:ℂ) * wj) else ((wj:ℂ) - wl) / (z2 + z3 - P2 - P3)) / ((z1 - P1) * (z3 - P3))

/-- the multi-term in terms of the three differences `a_k = z_k − P_k` (complex weights) -/
noncomputable def mtCore (β a1 a2 a3 w1 w2 w3 w4 : ℂ) : ℂ :=
  (-(w2 + w3)) / (a1 * a2 * a3)
  + (w1 + w4) / (a1 * (a1 + a2 + a3) * a3)
  + (if a1 + a2 = 0 then β * w1 else (w3 - w1) / (a1 + a2)) / (a1 * a3)
  + (if a2 + a3 = 0 then -(β * w2) else (w2 - w4) / (a2 + a3)) / (a1 * a3)

theorem multiTerm_eq_mtCore (β : ℝ) (z1 z2 z3 : ℂ) (P1 P2 P3 : ℝ) (wi wj wk wl : ℝ) :
    multiTerm β z1 z2 z3 P1 P2 P3 wi wj wk wl
      = mtCore β (z1 - P1) (z2 - P2) (z3 - P3) wi wj wk wl := by
  have c12 : (z1 - (P1:ℂ)) + (z2 - (P2:ℂ)) = z1 + z2 - (P1:ℂ) - (P2:ℂ) := by ring
  have c23 : (z2 - (P2:ℂ)) + (z3 - (P3:ℂ)) = z2 + z3 - (P2:ℂ) - (P3:ℂ) := by ring
  have c123 : z1 + z2 - (P1:ℂ) - (P2:ℂ) + (z3 - (P3:ℂ))
      = z1 + z2 + z3 - (P1:ℂ) - (P2:ℂ) - (P3:ℂ) := by ring
  unfold multiTerm mtCore
  simp only [c12, c23, c123]

theorem mul_expInt (β : ℝ) (c w : ℂ) :
    w * expInt c β = if c = 0 then (β:ℂ) * w else (w * Complex.exp (c * β) - w) / c := by
  split_ifs with h
  · rw [h, expInt_zero, mul_comm]
  · rw [expInt_ne h, ← mul_div_assoc, mul_sub, mul_one]

theorem mul_expInt2 (β : ℝ) {a : ℂ} (c w : ℂ) (ha : a ≠ 0) (hs : a + c ≠ 0) :
    w * expInt2 a c β
      = (if c = 0 then (β:ℂ) * (w * Complex.exp (a * β))
          else (w * Complex.exp ((a + c) * β) - w * Complex.exp (a * β)) / c) / a
        + (w - w * Complex.exp ((a + c) * β)) / (a * (a + c)) := by
  split_ifs with h
  · subst h
    rw [expInt2_zero ha, add_zero]
    field_simp
    ring
  · rw [expInt2_ne a h, expInt_ne hs, expInt_ne ha]
    field_simp
    ring

/-- all the algebra needs of a bracket: `c · [x | Δ/c] = Δ`, provided `Δ` vanishes on resonance -/
theorem mul_bracket {c x Δ : ℂ} (h : c = 0 → Δ = 0) : c * (if c = 0 then x else Δ / c) = Δ := by
  split_ifs with hc
  · rw [hc, zero_mul, h hc]
  · exact mul_div_cancel₀ _ hc

theorem neg_bracket {c x x' Δ : ℂ} (h : c = 0 → x' = x) :
    (if -c = 0 then -x' else Δ / -c) = -(if c = 0 then x else Δ / c) := by
  simp only [neg_eq_zero]
  rw [neg_ite, div_neg]
  split_ifs with hc
  · rw [h hc]
  · rfl

theorem mul_exp_two_steps {β : ℝ} {a1 a2 w1 w2 w3 : ℂ} (e1 : w1 * Complex.exp (a1 * β) = -w2)
    (e2 : w2 * Complex.exp (a2 * β) = -w3) : w1 * Complex.exp ((a1 + a2) * β) = w3 := by
  rw [add_mul, Complex.exp_add, ← mul_assoc, e1, neg_mul, e2, neg_neg]

theorem w_eq_of_resonant {β : ℝ} {a1 a2 w1 w2 w3 : ℂ} (e1 : w1 * Complex.exp (a1 * β) = -w2)
    (e2 : w2 * Complex.exp (a2 * β) = -w3) (hc : a1 + a2 = 0) : w3 = w1 := by
  rw [← mul_exp_two_steps e1 e2, hc, zero_mul, Complex.exp_zero, mul_one]

/-- All four resonance classes in one statement.  The classes are not four cases because the two
brackets (`β w` on resonance, a difference quotient otherwise) are independent: the integral is
`(w₁·expInt2 a₁ (a₂+a₃) − (w₁·expInt (a₁+a₂) − w₁·expInt a₁)/a₂)/a₃`, `mul_expInt2` turns the first
summand into the bracket of `a₂+a₃` and `mul_expInt` the second into the bracket of `a₁+a₂`, each
splitting once on its own resonance; what is left is a rational identity that uses of the second
bracket only `(a₁+a₂) · bracket = w₃ − w₁` (`mul_bracket`). -/
theorem simplex_core (β : ℝ) (a1 a2 a3 w1 w2 w3 w4 : ℂ)
    (h1 : a1 ≠ 0) (h2 : a2 ≠ 0) (h3 : a3 ≠ 0) (hs : a1 + a2 + a3 ≠ 0)
    (e1 : w1 * Complex.exp (a1 * β) = -w2) (e2 : w2 * Complex.exp (a2 * β) = -w3)
    (e3 : w3 * Complex.exp (a3 * β) = -w4) :
    w1 * simplexIntegral β a1 a2 a3 = mtCore β a1 a2 a3 w1 w2 w3 w4 := by
  have e12 := mul_exp_two_steps e1 e2
  have es : w1 * Complex.exp ((a1 + a2 + a3) * β) = -w4 := by
    rw [add_mul, Complex.exp_add, ← mul_assoc, e12, e3]
  have hs' : a1 + (a2 + a3) ≠ 0 := by rwa [← add_assoc]
  have hX := mul_expInt2 β (a2 + a3) w1 h1 hs'
  have hY := mul_expInt β (a1 + a2) w1
  have h0 := mul_expInt β a1 w1
  rw [← add_assoc, es, e1] at hX
  rw [e12] at hY
  rw [if_neg h1, e1] at h0
  have hB : (a1 + a2) * (if a1 + a2 = 0 then (β:ℂ) * w1 else (w3 - w1) / (a1 + a2)) = w3 - w1 :=
    mul_bracket fun hc => by rw [w_eq_of_resonant e1 e2 hc, sub_self]
  have hS : w1 * simplexIntegral β a1 a2 a3
      = (w1 * expInt2 a1 (a2 + a3) β - (w1 * expInt (a1 + a2) β - w1 * expInt a1 β) / a2) / a3 := by
    rw [simplexIntegral_eq β a1 a2 h3, expInt2_ne a1 h2]
    ring
  rw [hS, hX, hY, h0]
  unfold mtCore
  have hR : (if a2 + a3 = 0 then (β:ℂ) * -w2 else (-w4 - -w2) / (a2 + a3))
      = (if a2 + a3 = 0 then -((β:ℂ) * w2) else (w2 - w4) / (a2 + a3)) := by
    rw [mul_neg, neg_sub_neg]
  rw [hR]
  generalize (if a1 + a2 = 0 then (β:ℂ) * w1 else (w3 - w1) / (a1 + a2)) = B12 at hB ⊢
  generalize (if a2 + a3 = 0 then -((β:ℂ) * w2) else (w2 - w4) / (a2 + a3)) = B23
  field_simp
  linear_combination (-(a1 + a2 + a3)) * hB

theorem sub_ofReal_ne_zero_of_exp_eq_neg_one {β : ℝ} {z : ℂ}
    (h : Complex.exp ((β:ℂ) * z) = -1) (P : ℝ) : z - (P:ℂ) ≠ 0 := by
  intro h0
  have hz : z = (P:ℂ) := sub_eq_zero.mp h0
  rw [hz, ← Complex.ofReal_mul, ← Complex.ofReal_exp] at h
  have h' : Real.exp (β * P) = -1 :=
    Complex.ofReal_injective (by rw [h, Complex.ofReal_neg, Complex.ofReal_one])
  exact lt_asymm (Real.exp_pos (β * P)) (h'.trans_lt neg_one_lt_zero)

theorem mul_exp_step {β : ℝ} {z : ℂ} (hz : Complex.exp ((β:ℂ) * z) = -1) {P w w' : ℝ}
    (hw : w' = w * Real.exp (-β * P)) : (w:ℂ) * Complex.exp ((z - (P:ℂ)) * β) = -(w':ℂ) := by
  have hsplit : (z - (P:ℂ)) * (β:ℂ) = (β:ℂ) * z + ((-β * P : ℝ) : ℂ) := by
    push_cast
    ring
  rw [hsplit, Complex.exp_add, hz, hw]
  push_cast
  ring

theorem exp_add3_eq_neg_one {β : ℝ} {z1 z2 z3 : ℂ} (h1 : Complex.exp ((β:ℂ) * z1) = -1)
    (h2 : Complex.exp ((β:ℂ) * z2) = -1) (h3 : Complex.exp ((β:ℂ) * z3) = -1) :
    Complex.exp ((β:ℂ) * (z1 + z2 + z3)) = -1 := by
  rw [mul_add, mul_add, Complex.exp_add, Complex.exp_add, h1, h2, h3]
  ring

theorem sum3_sub_ne_zero {β : ℝ} {z1 z2 z3 : ℂ} (h1 : Complex.exp ((β:ℂ) * z1) = -1)
    (h2 : Complex.exp ((β:ℂ) * z2) = -1) (h3 : Complex.exp ((β:ℂ) * z3) = -1) (P1 P2 P3 : ℝ) :
    (z1 - (P1:ℂ)) + (z2 - (P2:ℂ)) + (z3 - (P3:ℂ)) ≠ 0 := by
  have h := sub_ofReal_ne_zero_of_exp_eq_neg_one (exp_add3_eq_neg_one h1 h2 h3) (P1 + P2 + P3)
  rwa [show z1 + z2 + z3 - ((P1 + P2 + P3 : ℝ) : ℂ)
    = (z1 - (P1:ℂ)) + (z2 - (P2:ℂ)) + (z3 - (P3:ℂ)) by push_cast; ring] at h

set_option linter.unusedVariables false in
/-- z₁,z₂,z₃ are fermionic Matsubara frequencies (or any complex numbers with
e^{βz} = −1), P₁,P₂,P₃ arbitrary real level differences (coinciding levels allowed), and the
weights are Boltzmann-related along the world line.  All four resonance classes
(z₁+z₂ = P₁+P₂ or not, z₂+z₃ = P₂+P₃ or not) are covered.
(`hβ` is not used in the proof.) -/
theorem simplex_closed_form (β : ℝ) (hβ : 0 < β) (z1 z2 z3 : ℂ)
    (h1 : Complex.exp ((β:ℂ) * z1) = -1) (h2 : Complex.exp ((β:ℂ) * z2) = -1)
    (h3 : Complex.exp ((β:ℂ) * z3) = -1)
    (P1 P2 P3 : ℝ) (wi wj wk wl : ℝ)
    (hj : wj = wi * Real.exp (-β * P1)) (hk : wk = wj * Real.exp (-β * P2))
    (hl : wl = wk * Real.exp (-β * P3)) :
    (wi : ℂ) * simplexIntegral β (z1 - P1) (z2 - P2) (z3 - P3)
      = multiTerm β z1 z2 z3 P1 P2 P3 wi wj wk wl := by
  rw [multiTerm_eq_mtCore]
  exact simplex_core β _ _ _ _ _ _ _ (sub_ofReal_ne_zero_of_exp_eq_neg_one h1 P1)
    (sub_ofReal_ne_zero_of_exp_eq_neg_one h2 P2) (sub_ofReal_ne_zero_of_exp_eq_neg_one h3 P3)
    (sum3_sub_ne_zero h1 h2 h3 P1 P2 P3) (mul_exp_step h1 hj) (mul_exp_step h2 hk) (mul_exp_step h3 hl)

end Pomerol.Spec
