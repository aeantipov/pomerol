/-
  The loops of the models produce lists; the specifications sum over finite types.  The bridge is
  `sum_list_eq_sum_coded`: the sum over a duplicate-free list of codes is the sum over the coded type.
  Beside it, the regrouping of sums over a block-structured basis `Σ b, κ b` block tuple by block tuple.
-/
import Mathlib.Algebra.BigOperators.Group.Finset.Basic
import Mathlib.Algebra.BigOperators.Fin

namespace Pomerol.Spec

variable {M : Type} [AddCommMonoid M]

theorem sum_map_range (f : ℕ → M) (n : ℕ) :
    ((List.range n).map f).sum = ∑ i ∈ Finset.range n, f i :=
  rfl

theorem sum_map_flatMap {α β : Type} (l : List α) (f : α → List β) (W : β → M) :
    ((l.flatMap f).map W).sum = (l.map fun x => ((f x).map W).sum).sum := by
  rw [List.map_flatMap, List.flatMap_def, List.sum_flatten, List.map_map]
  rfl

theorem sum_map_filter {α : Type} (l : List α) (p : α → Bool) (h : α → M) :
    ((l.filter p).map h).sum = (l.map fun x => if p x then h x else 0).sum := by
  induction l with
  | nil => rfl
  | cons x l ih =>
    rw [List.filter_cons, List.map_cons, List.sum_cons, ← ih]
    by_cases hp : p x = true
    · rw [if_pos hp, if_pos hp]; rfl
    · rw [if_neg hp, if_neg hp, zero_add]

/-- How every "what the loop does not visit contributes nothing" argument is phrased.  `Q`: the codes the
loop visits (natural numbers for `Fin n`, pairs or quadruples of block numbers for block tuples); `hout`:
a visited code that codes nothing; `hz`: a coded element the loop does not visit. -/
theorem sum_list_eq_sum_coded {ι κ : Type} [Fintype ι] [DecidableEq κ]
    (e : ι ↪ κ) (Q : List κ) (hnd : Q.Nodup) (f : κ → M)
    (hout : ∀ k ∈ Q, k ∉ Set.range e → f k = 0) (hz : ∀ i, e i ∉ Q → f (e i) = 0) :
    (Q.map f).sum = ∑ i, f (e i) := by
  rw [← List.sum_toFinset _ hnd, ← Finset.sum_map Finset.univ e f]
  -- both index sets may be enlarged to their union without changing the sums
  refine (Finset.sum_subset (Finset.subset_union_left (s₂ := Finset.univ.map e)) ?_).trans
    (Finset.sum_subset (Finset.subset_union_right (s₁ := Q.toFinset)) ?_).symm
  · intro k hk hk'
    rcases Finset.mem_union.mp hk with h | h
    · exact absurd h hk'
    · obtain ⟨i, -, rfl⟩ := Finset.mem_map.mp h
      exact hz i fun h' => hk' (List.mem_toFinset.mpr h')
  · intro k hk hk'
    rcases Finset.mem_union.mp hk with h | h
    · exact hout k (List.mem_toFinset.mp h) fun ⟨i, hi⟩ =>
        hk' (Finset.mem_map.mpr ⟨i, Finset.mem_univ _, hi⟩)
    · exact absurd h hk'

theorem sum_sigma_pairs {ι : Type} {κ : ι → Type} [Fintype ι] [∀ i, Fintype (κ i)]
    (G : (Σ i, κ i) → (Σ i, κ i) → M) :
    ∑ n, ∑ m, G n m = ∑ L, ∑ R, ∑ i, ∑ j, G ⟨L, i⟩ ⟨R, j⟩ := by
  rw [Fintype.sum_sigma]
  refine Finset.sum_congr rfl fun L _ => ?_
  rw [Finset.sum_congr rfl fun i _ => Fintype.sum_sigma (G ⟨L, i⟩)]
  exact Finset.sum_comm

theorem sum_sigma_quads {ι : Type} {κ : ι → Type} [Fintype ι] [∀ i, Fintype (κ i)]
    (F : (Σ i, κ i) → (Σ i, κ i) → (Σ i, κ i) → (Σ i, κ i) → M) :
    ∑ n1, ∑ n2, ∑ n3, ∑ n4, F n1 n2 n3 n4
      = ∑ b1, ∑ b2, ∑ b3, ∑ b4, ∑ i1, ∑ i2, ∑ i3, ∑ i4, F ⟨b1, i1⟩ ⟨b2, i2⟩ ⟨b3, i3⟩ ⟨b4, i4⟩ := by
  rw [sum_sigma_pairs]
  refine Finset.sum_congr rfl fun b1 _ => Finset.sum_congr rfl fun b2 _ => ?_
  rw [Finset.sum_congr rfl fun i1 _ => Finset.sum_congr rfl fun i2 _ =>
    sum_sigma_pairs fun n3 n4 => F ⟨b1, i1⟩ ⟨b2, i2⟩ n3 n4, Finset.sum_comm_cycle]
  exact Finset.sum_congr rfl fun b3 _ => Finset.sum_comm_cycle

end Pomerol.Spec
