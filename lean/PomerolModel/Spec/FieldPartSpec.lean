/-
  The loops of `FieldOperatorPart::compute` (`Model/FieldPart.lean`) compute the block of the
  Jordan-Wigner matrix rotated into the eigenbasis, and the adjoint copy made by
  `FieldOperatorContainer::computeAll` is the part of the adjoint operator (property C10).

  Setting.  `blocks : List (List ℕ)` are the lists of Fock states (bit masks) of the blocks, `blkOf` the
  table "block of a state", `hpart b` what `FieldOperatorPart` sees of the `HamiltonianPart` of block
  `b`.  Read off these:
    * `Idx blocks = Σ b, Fin (size of block b)`: the full Fock space / all eigenstates, an index type of
      `Matrix.blockDiagonal'` as in `Spec/Blocks.lean` and `Spec/Rotation.lean` (`rotated_block`);
    * `Vfull` = the block-diagonal eigenvector matrix `U` on the full Fock space;
    * `jwFull blocks op` = the matrix of the symbolic operator on the full Fock space, entries
      `matrixElement op (fk k) (fk l)` = `Operator::getMatrixElement`, which `matrixElement_sem`
      identifies with the Jordan-Wigner representation `jwRep` (`jwFull_sem`).
  `Spec/AveragesSpec.lean` (C09) makes the same construction (`Idx`, `Ublk`, `Vfull`, `fk`) from its own
  data `parts : List (Part ℝ ℂ)`.  No lemma relates the two index types, or the stored matrices `pfl` of
  its `EAInput` with `FieldPart.Stored.rowMajor`.
  Scalars: `ℂ` with the exact idealisation of all tolerance tests (`Spec.Exact` for `actRight`; an entry
  is pruned by `sparseView` iff it is zero) and `int(x)` = truncation towards zero.

  The proofs are for one pair of blocks under `PairOK`, which collects what the source relies on.
-/
import PomerolModel.Model.FieldPart
import PomerolModel.Spec.JW
import PomerolModel.Spec.Rotation
import PomerolModel.Spec.HamSpectrumSpec
import Mathlib.Data.Matrix.Block
import Mathlib.Algebra.BigOperators.Fin
import Mathlib.Data.Fintype.BigOperators
import Mathlib.Algebra.Order.Archimedean.Real.Basic

namespace Pomerol.Spec.FieldPartSpec
open Matrix Pomerol Pomerol.Model Pomerol.Model.FieldPart Pomerol.Spec
open Pomerol.Spec.HamSpectrumSpec (blocks_getD)
open scoped Pomerol.Spec.Exact

/-- `int(x)`: truncation towards zero -/
noncomputable def truncZ (x : ℝ) : ℤ := if 0 ≤ x then ⌊x⌋ else ⌈x⌉

/-- `ℂ` with the exact idealisation of the pruning test: an entry is dropped iff it is zero -/
noncomputable instance : FieldScalar ℂ :=
  ⟨starRingEnd ℂ, fun z => truncZ z.re, fun n => (n : ℂ), fun z => decide (z ≠ 0)⟩

@[simp] theorem conj_eq (z : ℂ) : (FieldScalar.conj z : ℂ) = (starRingEnd ℂ) z := rfl
@[simp] theorem ofInt_eq (n : ℤ) : (FieldScalar.ofInt n : ℂ) = (n : ℂ) := rfl
@[simp] theorem kept_eq (z : ℂ) : FieldScalar.kept z = decide (z ≠ 0) := rfl
theorem truncInt_eq (z : ℂ) : FieldScalar.truncInt z = truncZ z.re := rfl

theorem truncZ_intCast (n : ℤ) : truncZ (n : ℝ) = n := by
  unfold truncZ
  split <;> simp

theorem loop_pure {σ : Type} (body : ℕ → σ → Except Err σ) (g : ℕ → σ → σ) :
    ∀ (n k0 : ℕ) (a : σ), (∀ k, k0 ≤ k → k < k0 + n → ∀ a, body k a = .ok (g k a)) →
      loop body n k0 a = .ok ((List.range' k0 n).foldl (fun acc k => g k acc) a) := by
  intro n
  induction n with
  | zero => intro k0 a _; simp [loop]
  | succ n ih =>
    intro k0 a h
    rw [loop, h k0 (le_refl _) (Nat.lt_add_of_pos_right n.succ_pos) a]
    simp only
    rw [ih (k0 + 1) (g k0 a) fun k h1 h2 => h k (Nat.le_of_succ_le h1) (Nat.add_right_comm k0 1 n ▸ h2),
      List.range'_succ, List.foldl_cons]

theorem foldl_set_col (k : ℕ) (v : ℕ → ℂ) : ∀ (n k0 : ℕ) (M : Dense ℂ),
    (List.range' k0 n).foldl (fun acc i => acc.set i k (v i)) M
      = fun i j => if j = k ∧ k0 ≤ i ∧ i < k0 + n then v i else M i j := by
  intro n
  induction n with
  | zero =>
    intro k0 M
    funext i j
    simp only [List.range'_zero, List.foldl_nil, Nat.add_zero]
    rw [if_neg (by omega)]
  | succ n ih =>
    intro k0 M
    rw [List.range'_succ, List.foldl_cons, ih]
    funext i j
    unfold Dense.set
    by_cases h1 : j = k ∧ k0 + 1 ≤ i ∧ i < k0 + 1 + n
    · rw [if_pos h1, if_pos (by omega)]
    · rw [if_neg h1]
      by_cases h2 : i = k0 ∧ j = k
      · rw [if_pos h2, if_pos (by omega), h2.1]
      · rw [if_neg h2, if_neg (by omega)]

/-- `foldl_set_col` for the transposed matrix -/
theorem foldl_set_row (k : ℕ) (v : ℕ → ℂ) (n k0 : ℕ) (M : Dense ℂ) :
    (List.range' k0 n).foldl (fun acc j => acc.set k j (v j)) M
      = fun i j => if i = k ∧ k0 ≤ j ∧ j < k0 + n then v j else M i j := by
  have h := List.foldl_hom (fun (A : Dense ℂ) i j => A j i)
    (g₁ := fun (acc : Dense ℂ) i => acc.set i k (v i)) (g₂ := fun (acc : Dense ℂ) j => acc.set k j (v j))
    (l := List.range' k0 n) (init := fun i j => M j i)
    (fun A j => by funext a b; simp only [Dense.set, and_comm])
  rw [h, foldl_set_col]

theorem getMatrixElement_eq (h : HPart ℂ) {m n : ℕ} (hm : m < h.dim) (hn : n < h.dim) :
    h.getMatrixElement m n = .ok (h.U m n) :=
  if_pos ⟨hm, hn⟩

/-- the loop `for n: LeftMat(n,k) = conj(HTo.getMatrixElement(l,n))` -/
theorem left_loop (hTo : HPart ℂ) (toSize l k : ℕ) (hl : l < hTo.dim) (hsz : toSize ≤ hTo.dim)
    (L0 : Dense ℂ) :
    loop (leftBody hTo l k) toSize 0 L0
      = .ok (fun i j => if j = k ∧ i < toSize then (starRingEnd ℂ) (hTo.U l i) else L0 i j) := by
  rw [loop_pure _ (fun n Lm => Lm.set n k ((starRingEnd ℂ) (hTo.U l n)))]
  · rw [foldl_set_col k (fun i => (starRingEnd ℂ) (hTo.U l i))]
    congr 1
    funext i j
    simp only [Nat.zero_le, true_and, Nat.zero_add]
  · intro n _ hn a
    unfold leftBody
    rw [getMatrixElement_eq hTo hl (Nat.lt_of_lt_of_le (Nat.zero_add toSize ▸ hn) hsz)]
    rfl

/-- the loop `for m: RightMat(k,m) = sign * HFrom.getMatrixElement(k,m)` -/
theorem right_loop (hFrom : HPart ℂ) (fromSize k : ℕ) (sign : ℤ) (hk : k < hFrom.dim)
    (hsz : fromSize ≤ hFrom.dim) (R0 : Dense ℂ) :
    loop (rightBody hFrom sign k) fromSize 0 R0
      = .ok (fun i j => if i = k ∧ j < fromSize then (sign : ℂ) * hFrom.U k j else R0 i j) := by
  rw [loop_pure _ (fun m Rm => Rm.set k m ((sign : ℂ) * hFrom.U k m))]
  · rw [foldl_set_row k (fun j => (sign : ℂ) * hFrom.U k j)]
    congr 1
    funext i j
    simp only [Nat.zero_le, true_and, Nat.zero_add]
  · intro m _ hm a
    unfold rightBody
    rw [getMatrixElement_eq hFrom hk (Nat.lt_of_lt_of_le (Nat.zero_add fromSize ▸ hm) hsz)]
    rfl

/-- What `FieldOperatorPart::compute` relies on, for the part `<to| op |from>`:
* `dimTo`, `dimFrom`: the eigenvector matrices have (at least) as many rows/columns as the blocks have
  states (violated after `Hamiltonian::reduce`);
* `innerTo`, `innerFrom`: `getInnerState` returns the position in `toStates` / `fromStates` for the
  states of these blocks (so the two lists have no duplicates);
* `single`: `actRight` returns at most ONE state ("each column of O has only one non-zero element");
* `into`: that state lies in the block `to`: `C10.prepare_pairs_the_right_blocks` gives it for the block
  `prepare` pairs with `from`, provided all images of `from` lie in one block, which
  `C07.creation_single_target`, `annihilation_single_target`, `quadratic_single_target` state for
  `c†_i`, `c_i`, `c†_i c_j` in terms of the quantum numbers;
* `integer`: its amplitude survives the conversion to `int` (it is `±1` for `c`, `c†`, `c†_i c_j`). -/
structure PairOK (getInner : ℕ → Option ℕ) (toStates fromStates : List ℕ) (hTo hFrom : HPart ℂ)
    (op : Poly ℂ) : Prop where
  dimTo : toStates.length ≤ hTo.dim
  dimFrom : fromStates.length ≤ hFrom.dim
  innerTo : ∀ i, i < toStates.length → getInner (toStates.getD i 0) = some i
  innerFrom : ∀ j, j < fromStates.length → getInner (fromStates.getD j 0) = some j
  single : ∀ f ∈ fromStates, (actPoly op f).length ≤ 1
  into : ∀ f ∈ fromStates, ∀ x ∈ actPoly op f, x.1 ∈ toStates
  integer : ∀ f ∈ fromStates, ∀ x ∈ actPoly op f,
    (FieldScalar.ofInt (FieldScalar.truncInt x.2) : ℂ) = x.2

/-- column of `LeftMat` written for the source state `f` -/
noncomputable def leftCol (toStates : List ℕ) (hTo : HPart ℂ) (op : Poly ℂ) (f n : ℕ) : ℂ :=
  match actPoly op f with
  | [] => 0
  | x :: _ => if n < toStates.length then (starRingEnd ℂ) (hTo.U (toStates.idxOf x.1) n) else 0

/-- row `k` of `RightMat` written for the source state `f` -/
noncomputable def rightRow (fromSize : ℕ) (hFrom : HPart ℂ) (op : Poly ℂ) (f k m : ℕ) : ℂ :=
  match actPoly op f with
  | [] => 0
  | x :: _ => if m < fromSize then x.2 * hFrom.U k m else 0

section Pair
variable {getInner : ℕ → Option ℕ} {toStates fromStates : List ℕ} {hTo hFrom : HPart ℂ}
  {op : Poly ℂ}

theorem getD_mem {l : List ℕ} {j : ℕ} (h : j < l.length) : l.getD j 0 ∈ l := by
  rw [getD_eq_getElem _ 0 h]
  exact List.getElem_mem h

theorem PairOK.inner_of_mem (h : PairOK getInner toStates fromStates hTo hFrom op) {L : ℕ}
    (hL : L ∈ toStates) : toStates.idxOf L < toStates.length ∧
      getInner L = some (toStates.idxOf L) := by
  have hlt : toStates.idxOf L < toStates.length := List.idxOf_lt_length_iff.mpr hL
  refine ⟨hlt, ?_⟩
  have := h.innerTo _ hlt
  rwa [getD_eq_getElem _ 0 hlt, List.getElem_idxOf hlt] at this

/-- `LeftMat`, `RightMat` once the states at the positions `< t` of `fromStates` are done -/
noncomputable def filled (toStates fromStates : List ℕ) (hTo hFrom : HPart ℂ) (op : Poly ℂ) (t : ℕ) :
    Dense ℂ × Dense ℂ :=
  (fun n j => if j < t then leftCol toStates hTo op (fromStates.getD j 0) n else 0,
   fun j m => if j < t then rightRow fromStates.length hFrom op (fromStates.getD j 0) j m else 0)

theorem visit_filled (h : PairOK getInner toStates fromStates hTo hFrom op) (t : ℕ)
    (ht : t < fromStates.length) :
    visit getInner toStates.length fromStates.length hTo hFrom op
        (filled toStates fromStates hTo hFrom op t) (fromStates.getD t 0)
      = .ok (filled toStates fromStates hTo hFrom op (t + 1)) := by
  have hmem : fromStates.getD t 0 ∈ fromStates := getD_mem ht
  unfold visit
  cases hact : actPoly op (fromStates.getD t 0) with
  | nil =>
    -- both matrices are indexed by the position `j` of the source state (column of `LeftMat`, row of
    -- `RightMat`), so one script compares them entry by entry
    refine congrArg _ (Prod.ext (funext fun n => funext fun j => ?_)
      (funext fun j => funext fun m => ?_)) <;>
    · dsimp only [filled]
      rcases Nat.lt_trichotomy j t with hj | rfl | hj
      · rw [if_pos hj, if_pos (Nat.lt_succ_of_lt hj)]
      · simp only [leftCol, rightRow, hact, lt_irrefl, Nat.lt_succ_self, if_true, if_false]
      · rw [if_neg (Nat.lt_asymm hj), if_neg (Nat.not_lt.mpr hj)]
  | cons x rest =>
    obtain ⟨L, amp⟩ := x
    have hx : (L, amp) ∈ actPoly op (fromStates.getD t 0) := hact ▸ List.mem_cons_self
    obtain ⟨hidx, hinner⟩ := h.inner_of_mem (h.into _ hmem _ hx)
    have hint : ((truncZ amp.re : ℤ) : ℂ) = amp := by
      have := h.integer _ hmem _ hx
      rwa [ofInt_eq, truncInt_eq] at this
    have hs : truncZ amp.re ≠ 0 := by
      intro h0
      rw [h0, Int.cast_zero] at hint
      exact actPoly_nonzero op (fromStates.getD t 0) (L, amp) hx hint.symm
    simp only [truncInt_eq, if_neg hs, hinner, h.innerFrom t ht, if_pos ht]
    rw [left_loop hTo _ _ t (Nat.lt_of_lt_of_le hidx h.dimTo) h.dimTo,
      right_loop hFrom _ t _ (Nat.lt_of_lt_of_le ht h.dimFrom) h.dimFrom, hint]
    refine congrArg _ (Prod.ext (funext fun n => funext fun j => ?_)
      (funext fun j => funext fun m => ?_)) <;>
    · dsimp only [filled]
      rcases Nat.lt_trichotomy j t with hj | rfl | hj
      · rw [if_neg fun h => hj.ne h.1, if_pos hj, if_pos (Nat.lt_succ_of_lt hj)]
      · simp only [leftCol, rightRow, hact, true_and, Nat.lt_succ_self, if_true, lt_irrefl, if_false]
      · rw [if_neg fun h => hj.ne' h.1, if_neg (Nat.lt_asymm hj), if_neg (Nat.not_lt.mpr hj)]

theorem fill_drop (h : PairOK getInner toStates fromStates hTo hFrom op) :
    ∀ k t, t + k = fromStates.length →
      fillStates getInner toStates.length fromStates.length hTo hFrom op (fromStates.drop t)
          (filled toStates fromStates hTo hFrom op t)
        = .ok (filled toStates fromStates hTo hFrom op fromStates.length) := by
  intro k
  induction k with
  | zero =>
    intro t ht
    rw [Nat.add_zero] at ht
    rw [ht, List.drop_length, fillStates]
  | succ k ih =>
    intro t ht
    have htl : t < fromStates.length := ht ▸ Nat.lt_add_of_pos_right k.succ_pos
    rw [List.drop_eq_getElem_cons htl, ← getD_eq_getElem _ 0 htl, fillStates,
      visit_filled h t htl]
    exact ih (t + 1) ((Nat.add_right_comm t 1 k).trans ht)

theorem mulEntry_eq_sum (inner : ℕ) (A B : Dense ℂ) (n m : ℕ) :
    mulEntry inner A B n m = ∑ k ∈ Finset.range inner, A n k * B k m := by
  unfold mulEntry
  induction inner with
  | zero => simp
  | succ inner ih => rw [List.range_succ, List.foldl_append, ih, Finset.sum_range_succ]; rfl

/-- entry `(n,m)` of `Utoᴴ · JW(op) · Ufrom` for one pair of blocks -/
noncomputable def rotatedEntry (toStates fromStates : List ℕ) (hTo hFrom : HPart ℂ) (op : Poly ℂ)
    (n m : ℕ) : ℂ :=
  ∑ i ∈ Finset.range toStates.length, ∑ j ∈ Finset.range fromStates.length,
    (starRingEnd ℂ) (hTo.U i n) * matrixElement op (toStates.getD i 0) (fromStates.getD j 0)
      * hFrom.U j m

/-- the contribution of one source state to the rotated entry is the product of the entries the loop
wrote into `LeftMat` and `RightMat` -/
theorem column_contribution (h : PairOK getInner toStates fromStates hTo hFrom op) (n m j : ℕ)
    (hn : n < toStates.length) (hm : m < fromStates.length) (hj : j < fromStates.length) :
    leftCol toStates hTo op (fromStates.getD j 0) n
        * rightRow fromStates.length hFrom op (fromStates.getD j 0) j m
      = ∑ i ∈ Finset.range toStates.length,
          (starRingEnd ℂ) (hTo.U i n)
            * matrixElement op (toStates.getD i 0) (fromStates.getD j 0) * hFrom.U j m := by
  have hmem : fromStates.getD j 0 ∈ fromStates := getD_mem hj
  unfold leftCol rightRow matrixElement
  cases hact : actPoly op (fromStates.getD j 0) with
  | nil => simp only [List.find?_nil, mul_zero, zero_mul, Finset.sum_const_zero]
  | cons x rest =>
    have hrest : rest = [] := by
      have := h.single _ hmem
      rw [hact, List.length_cons] at this
      exact List.length_eq_zero_iff.mp (Nat.le_zero.mp (Nat.le_of_succ_le_succ this))
    subst hrest
    have hx : x ∈ actPoly op (fromStates.getD j 0) := hact ▸ List.mem_cons_self
    obtain ⟨hidx, hinner⟩ := h.inner_of_mem (h.into _ hmem _ hx)
    simp only [if_pos hn, if_pos hm]
    rw [Finset.sum_eq_single (toStates.idxOf x.1)]
    · have : toStates.getD (toStates.idxOf x.1) 0 = x.1 := by
        rw [getD_eq_getElem _ 0 hidx, List.getElem_idxOf hidx]
      rw [this]
      simp only [List.find?_cons, beq_self_eq_true]
      ring
    · intro i hi hne
      have hi' : i < toStates.length := Finset.mem_range.mp hi
      have hneq : x.1 ≠ toStates.getD i 0 := by
        intro heq
        have h1 := h.innerTo i hi'
        rw [← heq, hinner] at h1
        exact hne (Option.some.inj h1).symm
      have hb : (x.1 == toStates.getD i 0) = false := beq_false_of_ne hneq
      simp only [List.find?_cons, hb, List.find?_nil, mul_zero, zero_mul]
    · intro hni
      exact absurd (Finset.mem_range.mpr hidx) hni

/-- **The dense product `LeftMat * RightMat` of `FieldOperatorPart::compute` is the block of
`Utoᴴ · JW(op) · Ufrom`.** -/
theorem computeDense_eq (h : PairOK getInner toStates fromStates hTo hFrom op) :
    ∃ D, computeDense getInner toStates fromStates hTo hFrom op = .ok D ∧
      ∀ n m, n < toStates.length → m < fromStates.length →
        D n m = rotatedEntry toStates fromStates hTo hFrom op n m := by
  have hfill := fill_drop h fromStates.length 0 (Nat.zero_add _)
  have h0 : filled toStates fromStates hTo hFrom op 0 = (fun _ _ => 0, fun _ _ => 0) := by
    simp only [filled, Nat.not_lt_zero, if_false]
  rw [List.drop_zero, h0] at hfill
  unfold computeDense leftRight
  rw [hfill]
  refine ⟨_, rfl, ?_⟩
  intro n m hn hm
  rw [mulEntry_eq_sum, rotatedEntry, Finset.sum_comm]
  refine Finset.sum_congr rfl fun j hj => ?_
  have hj' : j < fromStates.length := Finset.mem_range.mp hj
  rw [if_pos hj', if_pos hj']
  exact column_contribution h n m j hn hm hj'

end Pair

noncomputable def sparseCols (rows cols : ℕ) (M : Dense ℂ) : GFPart.SpMat ℂ :=
  (List.range cols).map fun m =>
    (List.range rows).filterMap fun n =>
      if FieldScalar.kept (M n m) then some (n, M n m) else none

theorem find_sparse (g : ℕ → ℂ) (m cols : ℕ) :
    ((List.range cols).filterMap fun j =>
        if FieldScalar.kept (g j) then some (j, g j) else none).find? (fun p => p.1 == m)
      = if m < cols ∧ g m ≠ 0 then some (m, g m) else none := by
  cases hf : List.find? _ _ with
  | none =>
    rw [List.find?_eq_none] at hf
    rw [if_neg]
    rintro ⟨h1, h2⟩
    exact hf (m, g m) (List.mem_filterMap.mpr ⟨m, List.mem_range.mpr h1, by simp [h2]⟩) (by simp)
  | some x =>
    -- the entry found is some `(j, g j)` that was kept, and its key is `m`
    obtain ⟨j, hj, hx⟩ := List.mem_filterMap.mp (List.mem_of_find?_eq_some hf)
    have hm : x.1 = m := by simpa using List.find?_some hf
    split_ifs at hx with hk
    cases hx
    rw [← hm, if_pos ⟨List.mem_range.mp hj, by simpa using hk⟩]

theorem getD_map_range {α : Type} {f : ℕ → α} {n i : ℕ} {d : α} (h : i < n) :
    ((List.range n).map f).getD i d = f i := by
  simp [List.getD_eq_getElem?_getD, h]

/-- `prune` removes nothing from a fresh `sparseView` (same test) -/
theorem prune_sparseRows (rows cols : ℕ) (M : Dense ℂ) :
    prune (sparseRows rows cols M) = sparseRows rows cols M := by
  unfold prune sparseRows
  rw [List.map_map]
  refine List.map_congr_left fun n _ => ?_
  simp only [Function.comp]
  rw [List.filter_eq_self]
  intro p hp
  rw [List.mem_filterMap] at hp
  obtain ⟨j, _, hj⟩ := hp
  split_ifs at hj with hk
  cases hj
  exact hk

theorem toColMajor_sparseRows (rows cols : ℕ) (M : Dense ℂ) :
    toColMajor cols (sparseRows rows cols M) = sparseCols rows cols M := by
  unfold toColMajor sparseCols
  have hlen : (sparseRows rows cols M).length = rows := by
    rw [sparseRows, List.length_map, List.length_range]
  rw [hlen]
  refine List.map_congr_left fun m hm => ?_
  have hm' : m < cols := List.mem_range.mp hm
  refine List.filterMap_congr fun n hn => ?_
  have hn' : n < rows := List.mem_range.mp hn
  unfold sparseRows
  rw [getD_map_range hn', find_sparse (fun j => M n j) m cols]
  by_cases h0 : M n m = 0
  · rw [if_neg fun h => h.2 h0]
    simp [h0]
  · rw [if_pos ⟨hm', h0⟩]
    simp [h0]

theorem compute_of_dense (realBuild : Bool) {getInner : ℕ → Option ℕ} {toStates fromStates : List ℕ}
    {hTo hFrom : HPart ℂ} {op : Poly ℂ} {D : Dense ℂ}
    (h : computeDense getInner toStates fromStates hTo hFrom op = .ok D) :
    compute realBuild getInner toStates fromStates hTo hFrom op
      = .ok { rows := toStates.length, cols := fromStates.length,
              rowMajor := sparseRows toStates.length fromStates.length D,
              colMajor := sparseCols toStates.length fromStates.length D } := by
  unfold compute
  rw [h]
  simp only [prune_sparseRows, ite_self, toColMajor_sparseRows]

theorem coeffRow_sparse {rows cols : ℕ} (D : Dense ℂ) (cm : GFPart.SpMat ℂ) {n m : ℕ}
    (hn : n < rows) (hm : m < cols) :
    (Stored.mk rows cols (sparseRows rows cols D) cm).coeffRow n m = D n m := by
  unfold Stored.coeffRow sparseRows
  simp only
  rw [getD_map_range hn, find_sparse (fun j => D n j) m cols]
  by_cases h0 : D n m = 0
  · rw [if_neg fun h => h.2 h0]
    exact h0.symm
  · rw [if_pos ⟨hm, h0⟩]

/-- the row-major copy of the transposed matrix -/
theorem coeffCol_sparse {rows cols : ℕ} (D : Dense ℂ) (rm : GFPart.SpMat ℂ) {n m : ℕ}
    (hn : n < rows) (hm : m < cols) :
    (Stored.mk rows cols rm (sparseCols rows cols D)).coeffCol n m = D n m :=
  coeffRow_sparse (fun m n => D n m) rm hm hn

/-- **`FieldOperatorPart::compute` succeeds and both stored copies hold the block of
`Utoᴴ · JW(op) · Ufrom`** (in both builds). -/
theorem compute_pair {getInner : ℕ → Option ℕ} {toStates fromStates : List ℕ} {hTo hFrom : HPart ℂ}
    {op : Poly ℂ} (h : PairOK getInner toStates fromStates hTo hFrom op) (realBuild : Bool) :
    ∃ S, compute realBuild getInner toStates fromStates hTo hFrom op = .ok S ∧
      S.rows = toStates.length ∧ S.cols = fromStates.length ∧
      ∀ n m, n < toStates.length → m < fromStates.length →
        S.coeffRow n m = rotatedEntry toStates fromStates hTo hFrom op n m ∧
        S.coeffCol n m = rotatedEntry toStates fromStates hTo hFrom op n m := by
  obtain ⟨D, hD, hval⟩ := computeDense_eq h
  refine ⟨_, compute_of_dense realBuild hD, rfl, rfl, ?_⟩
  intro n m hn hm
  rw [coeffRow_sparse _ _ hn hm, coeffCol_sparse _ _ hn hm]
  exact ⟨hval n m hn hm, hval n m hn hm⟩

section Full
variable (blocks : List (List ℕ)) (hpart : ℕ → HPart ℂ)

abbrev Idx : Type := Σ b : Fin blocks.length, Fin (blocks.get b).length

/-- the eigenvector matrix of block `b`: row = Fock (inner) index, column = eigenstate -/
def Ublk (b : Fin blocks.length) :
    Matrix (Fin (blocks.get b).length) (Fin (blocks.get b).length) ℂ :=
  Matrix.of fun f s => (hpart b).U f s

def Vfull : Matrix (Idx blocks) (Idx blocks) ℂ := blockDiagonal' (Ublk blocks hpart)

def fk (k : Idx blocks) : ℕ := (blocks.get k.1).get k.2

/-- the Jordan-Wigner matrix `JW(op)` of the symbolic operator on the full Fock space, in the order of
the Fock states given by the blocks: entry `(k,l)` is `⟨fk k| op |fk l⟩` = `getMatrixElement`, which
`matrixElement_sem` (`Spec/JW.lean`) identifies with the Jordan-Wigner representation `jwRep`. -/
noncomputable def jwFull (op : Poly ℂ) : Matrix (Idx blocks) (Idx blocks) ℂ :=
  Matrix.of fun k l => matrixElement op (fk blocks k) (fk blocks l)

theorem jwFull_sem (op : Poly ℂ) (k l : Idx blocks) :
    jwFull blocks op k l
      = ((jwRep ℂ).poly op (Finsupp.single (fk blocks l) 1)) (fk blocks k) :=
  matrixElement_sem op _ _

theorem rotated_block_entry (op : Poly ℂ) (l r : Fin blocks.length)
    (n : Fin (blocks.get l).length) (m : Fin (blocks.get r).length) :
    ((Vfull blocks hpart)ᴴ * jwFull blocks op * Vfull blocks hpart) ⟨l, n⟩ ⟨r, m⟩
      = rotatedEntry (blocks.get l) (blocks.get r) (hpart l) (hpart r) op n m := by
  unfold rotatedEntry
  rw [Vfull, rotated_block, Finset.sum_comm, Finset.sum_range]
  refine Finset.sum_congr rfl fun j _ => ?_
  rw [Finset.sum_mul, Finset.sum_range]
  refine Finset.sum_congr rfl fun i _ => ?_
  rw [getD_eq_getElem _ 0 i.2, getD_eq_getElem _ 0 j.2]
  rfl

end Full

/-! ## inside the library: `getInner = S.getInnerState`, the states and eigenvectors of two blocks -/

/-- The hypotheses of C10 on the tables give `PairOK` for the part `<l| op |r>`: the two blocks list
no state twice and the block table is consistent with them (so `getInnerState` is the position in
the block, `HamSpectrumSpec.innerState_of_block`); the eigenvector matrices are not truncated; `op`
maps every state of the right block into the left block or annihilates it (`hinto`: single-target
property of C07); and -- because the code only looks at the FIRST state returned by `actRight` and
converts its amplitude to `int` -- `actRight` returns at most one state (`hsingle`) with an integer
amplitude (`hint`).  For one monomial with coefficient 1 the last two hold automatically: `mono1_ok`. -/
theorem pairOK_blocks {blkOf : List ℕ} {blocks : List (List ℕ)} {hpart : ℕ → HPart ℂ} {op : Poly ℂ}
    {l r : Fin blocks.length}
    (hcls : ∀ b s, s ∈ blocks.getD b [] → blkOf[s]? = some b)
    (hndl : (blocks.get l).Nodup) (hndr : (blocks.get r).Nodup)
    (hdiml : (blocks.get l).length ≤ (hpart l).dim) (hdimr : (blocks.get r).length ≤ (hpart r).dim)
    (hsingle : ∀ f ∈ blocks.get r, (actPoly op f).length ≤ 1)
    (hinto : ∀ f ∈ blocks.get r, ∀ x ∈ actPoly op f, x.1 ∈ blocks.get l)
    (hint : ∀ f ∈ blocks.get r, ∀ x ∈ actPoly op f, ((truncZ x.2.re : ℤ) : ℂ) = x.2) :
    PairOK (Symm.innerState blkOf blocks) (blocks.get l) (blocks.get r) (hpart l) (hpart r) op :=
  { dimTo := hdiml, dimFrom := hdimr,
    innerTo := fun i hi => by
      rw [getD_eq_getElem _ 0 hi]
      exact (HamSpectrumSpec.innerState_of_block hcls hndl hi).2
    innerFrom := fun j hj => by
      rw [getD_eq_getElem _ 0 hj]
      exact (HamSpectrumSpec.innerState_of_block hcls hndr hj).2
    single := hsingle, into := hinto, integer := hint }

/-- `FieldOperator::mapsTo`: the block it returns is the block of a state that `op` reaches from the
given states -/
theorem mapsTo_eq_some {op : Poly ℂ} {blkOf states : List ℕ} {l : ℕ}
    (h : Symm.mapsTo op blkOf states = some l) :
    ∃ f ∈ states, ∃ x ∈ actPoly op f, blkOf[x.1]? = some l := by
  unfold Symm.mapsTo at h
  split at h
  · cases h
  · rename_i t hfs
    obtain ⟨f, hf, hg⟩ := List.exists_of_findSome?_eq_some hfs
    cases hact : actPoly op f with
    | nil => rw [hact] at hg; cases hg
    | cons x rest =>
      rw [hact] at hg
      obtain rfl : x.1 = t := Option.some.inj hg
      exact ⟨f, hf, x, hact ▸ List.mem_cons_self, h⟩

theorem computeBlocks_eq (realBuild : Bool) (blkOf : List ℕ) (blocks : List (List ℕ))
    (hpart : ℕ → HPart ℂ) (l r : Fin blocks.length) (op : Poly ℂ) :
    computeBlocks realBuild blkOf blocks hpart l r op
      = compute realBuild (Symm.innerState blkOf blocks) (blocks.get l) (blocks.get r) (hpart l)
          (hpart r) op := by
  unfold computeBlocks
  rw [blocks_getD, blocks_getD]

theorem actPoly_mono1 (mono : Mono) (f : ℕ) :
    actPoly [(mono, (1 : ℂ))] f
      = match actMono mono f with
        | none => []
        | some (b, neg) => [(b, if neg then -1 else 1)] := by
  unfold actPoly
  simp only [List.foldl_cons, List.foldl_nil]
  cases h : actMono mono f with
  | none => simp
  | some q =>
    obtain ⟨b, neg⟩ := q
    cases neg <;> simp [CoefTest.aboveEps, CoefTest.belowEps, stateMapAdd]

theorem mono1_mem (mono : Mono) (f : ℕ) (x : ℕ × ℂ) (hx : x ∈ actPoly [(mono, (1 : ℂ))] f) :
    ∃ neg, actMono mono f = some (x.1, neg) ∧ x.2 = if neg then -1 else 1 := by
  rw [actPoly_mono1] at hx
  cases h : actMono mono f with
  | none => rw [h] at hx; cases hx
  | some q =>
    rw [h] at hx
    rw [List.mem_singleton.mp hx]
    exact ⟨q.2, rfl, rfl⟩

/-- what `pairOK_blocks` asks of the operator holds for a single monomial with coefficient 1
(`opC i`, `opCdag i`, `opNOffdiag i j` are of the form `[(mono, 1)]`) that maps the states of `R` into
`L`: the single-target property, stated on the bit-mask action `actMono` (decidable for concrete
blocks), is the only hypothesis left -/
theorem mono1_ok (mono : Mono) (L R : List ℕ) (hinto : ∀ f ∈ R, ∀ q ∈ actMono mono f, q.1 ∈ L) :
    (∀ f ∈ R, (actPoly [(mono, (1 : ℂ))] f).length ≤ 1) ∧
    (∀ f ∈ R, ∀ x ∈ actPoly [(mono, (1 : ℂ))] f, x.1 ∈ L) ∧
    (∀ f ∈ R, ∀ x ∈ actPoly [(mono, (1 : ℂ))] f, ((truncZ x.2.re : ℤ) : ℂ) = x.2) := by
  refine ⟨fun f _ => ?_, fun f hf x hx => ?_, fun f _ x hx => ?_⟩
  · rw [actPoly_mono1]
    rcases actMono mono f with _ | q
    exacts [Nat.zero_le _, Nat.le_refl _]
  · obtain ⟨neg, hneg, -⟩ := mono1_mem mono f x hx
    exact hinto f hf (x.1, neg) hneg
  · obtain ⟨neg, -, hamp⟩ := mono1_mem mono f x hx
    have hz : x.2 = ((if neg then -1 else 1 : ℤ) : ℂ) := by
      rw [hamp, apply_ite Int.cast, Int.cast_neg, Int.cast_one]
    rw [hz, Complex.intCast_re, truncZ_intCast]

theorem actOp_flip {o : Op} {s s' : ℕ} {n : Bool} (h : actOp o s = some (s', n)) :
    actOp o.flip s' = some (s, n) := by
  unfold actOp at h
  by_cases hc : o.ann = s.testBit o.idx
  · rw [if_pos hc] at h
    simp only [Option.some.injEq, Prod.mk.injEq] at h
    obtain ⟨rfl, rfl⟩ := h
    unfold actOp Op.flip
    simp only
    rw [if_pos (by rw [testBit_flipBit, if_pos rfl, hc]), flipBit_flipBit, lowParity_flipBit,
      if_neg (Nat.lt_irrefl _)]
  · rw [if_neg hc] at h
    cases h

theorem op_flip_flip (o : Op) : o.flip.flip = o := by
  cases o
  simp [Op.flip]

theorem adjMono_adjMono (m : Mono) : adjMono (adjMono m) = m := by
  unfold adjMono
  rw [List.map_reverse, List.reverse_reverse, List.map_map]
  have : Op.flip ∘ Op.flip = id := funext op_flip_flip
  rw [this, List.map_id]

theorem adjMono_cons (o : Op) (m : Mono) : adjMono (o :: m) = adjMono m ++ [o.flip] := by
  simp [adjMono]

theorem actMono_adj_of : ∀ (m : Mono) (a b : ℕ) (neg : Bool),
    actMono m b = some (a, neg) → actMono (adjMono m) a = some (b, neg)
  | [], a, b, neg, h => by
    simp only [actMono, Option.some.injEq, Prod.mk.injEq] at h
    obtain ⟨rfl, rfl⟩ := h
    rfl
  | o :: rest, a, b, neg, h => by
    obtain ⟨s1, n1, n2, h1, h2⟩ := actMono_cons_some h
    -- `neg` is the product of the two signs
    obtain rfl : (n1 != n2) = neg := by
      simpa using (actMono_cons_of_some h1 h2).symm.trans h
    have h5 : actMono [o.flip] a = some (s1, n2) := by simp [actMono, actOp_flip h2]
    rw [adjMono_cons, actMono_append, h5]
    simp only [actMono_adj_of rest s1 b n1 h1]
    rw [bne_comm]

theorem actMono_adj_iff (m : Mono) (a b : ℕ) (neg : Bool) :
    actMono (adjMono m) a = some (b, neg) ↔ actMono m b = some (a, neg) := by
  constructor
  · intro h
    have := actMono_adj_of (adjMono m) b a neg h
    rwa [adjMono_adjMono] at this
  · exact actMono_adj_of m a b neg

/-- `⟨a| mono |b⟩` -/
def monoAmp (m : Mono) (a b : ℕ) : ℂ :=
  if actMono m b = some (a, false) then 1 else if actMono m b = some (a, true) then -1 else 0

theorem monoAmp_adj (m : Mono) (a b : ℕ) : monoAmp (adjMono m) b a = monoAmp m a b := by
  simp only [monoAmp, actMono_adj_iff]

theorem monoAmp_real (m : Mono) (a b : ℕ) : (starRingEnd ℂ) (monoAmp m a b) = monoAmp m a b := by
  unfold monoAmp
  rw [apply_ite (starRingEnd ℂ), apply_ite (starRingEnd ℂ), RingHom.map_one, RingHom.map_neg,
    RingHom.map_one, RingHom.map_zero]

theorem jw_mono_apply (m : Mono) (a b : ℕ) :
    (jwRep ℂ).mono m (Finsupp.single b 1) a = monoAmp m a b := by
  rw [jw_mono_single]
  unfold monoAmp
  rcases actMono m b with _ | ⟨a', _ | _⟩
  · simp
  · simp [Finsupp.single_apply]
  · simp only [Finsupp.single_apply, Option.some.injEq, Prod.mk.injEq, reduceCtorEq, and_false,
      and_true, if_false, if_true]

theorem matrixElement_eq_sum (p : Poly ℂ) (a b : ℕ) :
    matrixElement p a b = (p.map fun mc => mc.2 * monoAmp mc.1 a b).sum := by
  -- evaluation at `a` as an additive hom, so that it passes through `List.sum`
  rw [matrixElement_sem, poly_apply, ← Finsupp.applyAddHom_apply, map_list_sum, List.map_map]
  refine congrArg _ (List.map_congr_left fun mc _ => ?_)
  rw [Function.comp_apply, Finsupp.applyAddHom_apply, Finsupp.smul_apply, jw_mono_apply, smul_eq_mul]

theorem matrixElement_adjPoly (p : Poly ℂ) (a b : ℕ) :
    matrixElement (adjPoly p) b a = (starRingEnd ℂ) (matrixElement p a b) := by
  rw [matrixElement_eq_sum, matrixElement_eq_sum]
  induction p with
  | nil => exact (RingHom.map_zero _).symm
  | cons mc p ih =>
    simp only [adjPoly, List.map_cons, List.sum_cons, RingHom.map_add, RingHom.map_mul] at ih ⊢
    rw [ih, monoAmp_adj, monoAmp_real]
    rfl

theorem adjPoly_mono1 (mono : Mono) : adjPoly [(mono, (1 : ℂ))] = [(adjMono mono, (1 : ℂ))] := by
  rw [adjPoly, List.map_cons, List.map_nil, conj_eq, RingHom.map_one]

theorem adjPoly_opCdag (i : ℕ) : adjPoly (opCdag (K := ℂ) i) = opC i :=
  adjPoly_mono1 _

theorem sparseRows_adjoint (rows cols : ℕ) (D1 D2 : Dense ℂ)
    (h : ∀ n m, n < rows → m < cols → D2 m n = (starRingEnd ℂ) (D1 n m)) :
    sparseRows cols rows D2
      = (sparseCols rows cols D1).map fun v => v.map fun p => (p.1, FieldScalar.conj p.2) := by
  unfold sparseRows sparseCols
  rw [List.map_map]
  refine List.map_congr_left fun m hm => ?_
  simp only [Function.comp, List.map_filterMap]
  refine List.filterMap_congr fun n hn => ?_
  rw [h n m (List.mem_range.mp hn) (List.mem_range.mp hm)]
  -- an entry is kept iff its conjugate is: `star_eq_zero`
  simp only [Option.map_if, kept_eq, conj_eq, starRingEnd_apply, ne_eq, star_eq_zero]

theorem sparseCols_adjoint (rows cols : ℕ) (D1 D2 : Dense ℂ)
    (h : ∀ n m, n < rows → m < cols → D2 m n = (starRingEnd ℂ) (D1 n m)) :
    sparseCols cols rows D2
      = (sparseRows rows cols D1).map fun v => v.map fun p => (p.1, FieldScalar.conj p.2) :=
  sparseRows_adjoint cols rows (fun m n => D1 n m) (fun m n => D2 n m)
    fun m n hm hn => h n m hn hm

theorem rotatedEntry_adjoint (A B : List ℕ) (hA hB : HPart ℂ) (op opAdj : Poly ℂ)
    (hadj : ∀ a b, matrixElement opAdj b a = (starRingEnd ℂ) (matrixElement op a b)) (n m : ℕ) :
    rotatedEntry B A hB hA opAdj m n = (starRingEnd ℂ) (rotatedEntry A B hA hB op n m) := by
  unfold rotatedEntry
  rw [Finset.sum_comm]
  simp only [hadj, starRingEnd_apply, star_sum, star_mul', star_star]
  refine Finset.sum_congr rfl fun i _ => Finset.sum_congr rfl fun j _ => ?_
  ring

/-- **One pair of blocks: the adjoint copy of the part `<A| op |B>` IS the part `<B| op† |A>` that
`FieldOperatorPart::compute` would produce** -- both stored copies, entry by entry and in the same
storage order. -/
theorem adjoint_copy_pair {getInner : ℕ → Option ℕ} {A B : List ℕ} {hA hB : HPart ℂ}
    {op opAdj : Poly ℂ} (h1 : PairOK getInner A B hA hB op) (h2 : PairOK getInner B A hB hA opAdj)
    (hadj : ∀ a b, matrixElement opAdj b a = (starRingEnd ℂ) (matrixElement op a b))
    (realBuild : Bool) :
    ∃ S, compute realBuild getInner A B hA hB op = .ok S ∧
      compute realBuild getInner B A hB hA opAdj = .ok (adjointCopy S) := by
  obtain ⟨D1, hD1, hv1⟩ := computeDense_eq h1
  obtain ⟨D2, hD2, hv2⟩ := computeDense_eq h2
  refine ⟨_, compute_of_dense realBuild hD1, ?_⟩
  rw [compute_of_dense realBuild hD2]
  have hrel : ∀ n m, n < A.length → m < B.length → D2 m n = (starRingEnd ℂ) (D1 n m) := by
    intro n m hn hm
    rw [hv2 m n hm hn, hv1 n m hn hm, rotatedEntry_adjoint A B hA hB op opAdj hadj]
  unfold adjointCopy
  simp only
  rw [sparseRows_adjoint A.length B.length D1 D2 hrel, sparseCols_adjoint A.length B.length D1 D2 hrel]

/-! ## a concrete system: 2 modes, particle number conserved

Blocks `{00}`, `{01, 10}`, `{11}` (bit masks 0; 1, 2; 3).  The (unnormalised, complex) eigenvector
matrix of the middle block is `[[1, i], [i, 1]]`; the theorems do not need unitarity. -/

def exBlkOf : List ℕ := [0, 1, 1, 2]
def exBlocks : List (List ℕ) := [[0], [1, 2], [3]]
noncomputable def exHPart : ℕ → HPart ℂ
  | 1 => ⟨2, fun i j => if i = j then 1 else Complex.I⟩
  | _ => ⟨1, fun _ _ => 1⟩

theorem ex_cls : ∀ b s, s ∈ exBlocks.getD b [] → exBlkOf[s]? = some b := by
  intro b s h
  rcases b with _ | _ | _ | b
  · obtain rfl := List.mem_singleton.mp h; rfl
  · rcases List.mem_pair.mp h with rfl | rfl <;> rfl
  · obtain rfl := List.mem_singleton.mp h; rfl
  · cases h

/-- NON-VACUITY: the hypotheses of `pairOK_blocks` and `mono1_ok` hold for `c†_0` from the
one-particle block into the two-particle block (and for `c_0` back), so `adjoint_copy_pair` applies. -/
example : ∃ S, computeBlocks false exBlkOf exBlocks exHPart 2 1 [([⟨false, 0⟩], (1 : ℂ))] = .ok S ∧
    computeBlocks false exBlkOf exBlocks exHPart 1 2 [([⟨true, 0⟩], (1 : ℂ))]
      = .ok (adjointCopy S) := by
  obtain ⟨s1, i1, t1⟩ := mono1_ok [⟨false, 0⟩] [3] [1, 2] (by decide)
  obtain ⟨s2, i2, t2⟩ := mono1_ok [⟨true, 0⟩] [1, 2] [3] (by decide)
  have hadj := matrixElement_adjPoly [([⟨false, 0⟩], (1 : ℂ))]
  rw [adjPoly_mono1] at hadj
  exact adjoint_copy_pair
    (pairOK_blocks (l := (⟨2, by decide⟩ : Fin exBlocks.length)) (r := ⟨1, by decide⟩) ex_cls
      (by decide) (by decide) (Nat.le_refl _) (Nat.le_refl _) s1 i1 t1)
    (pairOK_blocks (l := (⟨1, by decide⟩ : Fin exBlocks.length)) (r := ⟨2, by decide⟩) ex_cls
      (by decide) (by decide) (Nat.le_refl _) (Nat.le_refl _) s2 i2 t2)
    hadj false

end Pomerol.Spec.FieldPartSpec
