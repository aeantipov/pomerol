/-
  Tolerance-aware accounting of the dynamical susceptibility (C14, finding F14).

  `Spec/Susc.lean` / `Spec/Bridge.lean` prove that the pole sum with the exact degeneracy test
  `E_m = E_n` equals the definition `∫₀^β ⟨A(τ)B(0)⟩ e^{iΩ_k τ} dτ`.  The code
  (`SusceptibilityPart::compute`) uses two tolerance tests instead, extracted as
  `Gen.Susc.isZeroPole pole rtol` (`|E_m − E_n| < ReduceResonanceTolerance`) and
  `Gen.Susc.residueKept res tol` (`|Residue| > MatrixElementTolerance`).  Here the value computed with
  these two tests (`suscWithTolerances`, written with the generated definitions at `ℝ`/`ℂ`) is accounted
  for exactly: it is the definition minus the terms the residue filter drops minus the error of the
  zero-pole treatment of nearly (not exactly) degenerate pairs (`suscWithTolerances_eq`).  The defect: a
  pair split by slightly more than `rtol` has residue `A B (w_n − w_m) ≈ A B w β ΔE ≤ mtol`, its term is
  dropped, yet its static contribution `Residue/Pole ≈ β w A B` is of order one
  (`residue_filter_counterexample`).

  As in `lehmann_susc` and `Bridge.susc_sum` the zero-pole weight is added at `k = 0` only (the
  code's test is `|iΩ_k| < 1e-15`, which is `k = 0` for every `β < 2π·10¹⁵`).
-/
import PomerolModel.Spec.Bridge
import Mathlib.Data.Matrix.Basis
import Mathlib.Analysis.Complex.Exponential

namespace Pomerol.Spec
open Matrix Complex Pomerol.Spec.Bridge

variable {ι : Type} [Fintype ι] [DecidableEq ι]

set_option linter.unusedSectionVars false

/-- What `SusceptibilityPart::compute` + the evaluation at `iΩ_k` do with the pair (outer index
`n`, inner index `m`): zero-pole test first, then the residue filter. -/
noncomputable def suscPairWithTolerances (d : EigenData ι) (A B : Matrix ι ι ℂ) (k : ℤ)
    (rtol mtol : ℝ) (n m : ι) : ℂ :=
  if Gen.Susc.isZeroPole (Gen.Susc.pole (d.E m) (d.E n)) rtol = true then
    (if k = 0 then Gen.Susc.zeroPoleIncrement (A n m) (B m n) (d.w n) * (d.β : ℂ) else 0)
  else if Gen.Susc.residueKept (Gen.Susc.residue (A n m) (B m n) (d.w n) (d.w m)) mtol = true then
    Gen.Susc.termFreq (Gen.Susc.residue (A n m) (B m n) (d.w n) (d.w m))
      (Gen.Susc.pole (d.E m) (d.E n)) (I * (d.Ω k : ℂ))
  else 0

/-- The susceptibility as the library evaluates it, tolerances included. -/
noncomputable def suscWithTolerances (d : EigenData ι) (A B : Matrix ι ι ℂ) (k : ℤ)
    (rtol mtol : ℝ) : ℂ :=
  ∑ n, ∑ m, suscPairWithTolerances d A B k rtol mtol n m

theorem suscPairWithTolerances_eq (d : EigenData ι) (A B : Matrix ι ι ℂ) (k : ℤ)
    (rtol mtol : ℝ) (n m : ι) :
    suscPairWithTolerances d A B k rtol mtol n m =
      if |d.E m - d.E n| < rtol then
        (if k = 0 then A n m * B m n * (d.w n : ℂ) * (d.β : ℂ) else 0)
      else if mtol < ‖A n m * B m n * ((d.w n : ℂ) - (d.w m : ℂ))‖ then
        -(A n m * B m n * ((d.w n : ℂ) - (d.w m : ℂ)))
          / (I * (d.Ω k : ℂ) - ((d.E m - d.E n : ℝ) : ℂ))
      else 0 := by
  unfold suscPairWithTolerances
  simp only [susc_isZeroPole, susc_residueKept, susc_termFreq, susc_zeroPole, susc_residue,
    susc_pole]

theorem suscPairWithTolerances_accounting (d : EigenData ι) (A B : Matrix ι ι ℂ) (k : ℤ)
    (rtol mtol : ℝ) (hr : 0 < rtol) (n m : ι) :
    suscPairWithTolerances d A B k rtol mtol n m =
      d.suscTerm A B k n m
      - (if rtol ≤ |d.E m - d.E n| ∧ ‖A n m * B m n * ((d.w n : ℂ) - (d.w m : ℂ))‖ ≤ mtol then
          -(A n m * B m n * ((d.w n : ℂ) - (d.w m : ℂ)))
            / (I * (d.Ω k : ℂ) - ((d.E m - d.E n : ℝ) : ℂ)) else 0)
      - (if 0 < |d.E m - d.E n| ∧ |d.E m - d.E n| < rtol then
          -(A n m * B m n * ((d.w n : ℂ) - (d.w m : ℂ)))
            / (I * (d.Ω k : ℂ) - ((d.E m - d.E n : ℝ) : ℂ))
          - (if k = 0 then (d.β : ℂ) * (d.w n : ℂ) * A n m * B m n else 0) else 0) := by
  rw [suscPairWithTolerances_eq]
  unfold EigenData.suscTerm
  rcases eq_or_ne (d.E m) (d.E n) with hE | hE
  · simp only [hE, sub_self, abs_zero, hr, not_le.mpr hr, lt_irrefl, false_and, if_true, if_false]
    split_ifs <;> ring
  · have hpos : 0 < |d.E m - d.E n| := abs_pos.mpr (sub_ne_zero.mpr hE)
    rcases lt_or_ge |d.E m - d.E n| rtol with hz | hz
    · simp only [hE, hz, hpos, not_le.mpr hz, false_and, and_self, if_true, if_false]
      split_ifs <;> ring
    · simp only [hE, hz, not_lt.mpr hz, and_false, true_and, if_false]
      by_cases hk : mtol < ‖A n m * B m n * ((d.w n : ℂ) - (d.w m : ℂ))‖
      · simp only [hk, not_le.mpr hk, if_true, if_false]
        ring
      · simp only [hk, not_lt.mp hk, if_true, if_false]
        ring

/-- exact accounting.  The value with tolerances is the definition
`∫₀^β ⟨A(τ)B(0)⟩ e^{iΩ_k τ} dτ`
minus the exact Lehmann terms of the pairs outside the resonance window whose residue does not
exceed `mtol` (dropped by the residue filter),
minus, for the pairs with `0 < |E_m − E_n| < rtol` (inside the window but not degenerate), the
difference between their exact Lehmann term and the zero-pole treatment they receive.
(`0 < rtol` is needed: for `rtol ≤ 0` exactly degenerate pairs are not recognised as zero poles.) -/
theorem suscWithTolerances_eq (d : EigenData ι) (A B : Matrix ι ι ℂ) (k : ℤ) (rtol mtol : ℝ)
    (hr : 0 < rtol) :
    suscWithTolerances d A B k rtol mtol =
      d.suscDef A B k
      - (∑ n, ∑ m,
          if rtol ≤ |d.E m - d.E n| ∧ ‖A n m * B m n * ((d.w n : ℂ) - (d.w m : ℂ))‖ ≤ mtol then
            -(A n m * B m n * ((d.w n : ℂ) - (d.w m : ℂ)))
              / (I * (d.Ω k : ℂ) - ((d.E m - d.E n : ℝ) : ℂ)) else 0)
      - (∑ n, ∑ m,
          if 0 < |d.E m - d.E n| ∧ |d.E m - d.E n| < rtol then
            -(A n m * B m n * ((d.w n : ℂ) - (d.w m : ℂ)))
              / (I * (d.Ω k : ℂ) - ((d.E m - d.E n : ℝ) : ℂ))
            - (if k = 0 then (d.β : ℂ) * (d.w n : ℂ) * A n m * B m n else 0) else 0) := by
  rw [lehmann_susc, lehmannSusc_eq_sum_suscTerm]
  unfold suscWithTolerances
  rw [← Finset.sum_sub_distrib, ← Finset.sum_sub_distrib]
  refine Finset.sum_congr rfl fun n _ => ?_
  rw [← Finset.sum_sub_distrib, ← Finset.sum_sub_distrib]
  refine Finset.sum_congr rfl fun m _ => ?_
  exact suscPairWithTolerances_accounting d A B k rtol mtol hr n m

/-- no error on a clean spectrum: if every pair of levels is either exactly degenerate or split by
at least `rtol` with a residue that is either above `mtol` or exactly zero, the value with
tolerances is the definition. -/
theorem suscWithTolerances_exact_of_clean_spectrum (d : EigenData ι) (A B : Matrix ι ι ℂ) (k : ℤ)
    (rtol mtol : ℝ) (hr : 0 < rtol)
    (h : ∀ n m, d.E m = d.E n ∨ (rtol ≤ |d.E m - d.E n| ∧
      (mtol < ‖A n m * B m n * ((d.w n : ℂ) - (d.w m : ℂ))‖ ∨
        A n m * B m n * ((d.w n : ℂ) - (d.w m : ℂ)) = 0))) :
    suscWithTolerances d A B k rtol mtol = d.suscDef A B k := by
  rw [lehmann_susc, lehmannSusc_eq_sum_suscTerm]
  refine Finset.sum_congr rfl fun n _ => Finset.sum_congr rfl fun m _ => ?_
  -- pair by pair: neither correction of the accounting applies
  rw [suscPairWithTolerances_accounting d A B k rtol mtol hr n m, sub_sub, sub_eq_self]
  rcases h n m with hE | ⟨hge, hk | hz⟩
  · rw [hE, sub_self, abs_zero, if_neg fun hc => absurd hc.1 (not_le.mpr hr),
      if_neg fun hc => lt_irrefl 0 hc.1, add_zero]
  · rw [if_neg fun hc => absurd hk (not_lt.mpr hc.2), if_neg fun hc => absurd hc.2 (not_lt.mpr hge),
      add_zero]
  · rw [hz, neg_zero, zero_div, ite_self, if_neg fun hc => absurd hc.2 (not_lt.mpr hge), add_zero]

noncomputable def twoLevel (β δ : ℝ) (hβ : 0 < β) : EigenData (Fin 2) := ⟨β, hβ, ![0, δ]⟩

theorem twoLevel_w_sub (β δ : ℝ) (hβ : 0 < β) :
    (twoLevel β δ hβ).w 0 - (twoLevel β δ hβ).w 1
      = (1 - Real.exp (-(β * δ))) / (1 + Real.exp (-(β * δ))) := by
  unfold EigenData.w EigenData.Z twoLevel
  rw [Fin.sum_univ_two]
  simp only [Matrix.cons_val_zero, Matrix.cons_val_one, mul_zero, Real.exp_zero, neg_mul]
  rw [← sub_div]

/-- `tanh (x/2) ≤ x/2` in exponential form, for `0 ≤ x ≤ 1` -/
theorem tanh_half_le (x : ℝ) (h0 : 0 ≤ x) (h1 : x ≤ 1) :
    (1 - Real.exp (-x)) / (1 + Real.exp (-x)) ≤ x / 2 := by
  have hpos : 0 < Real.exp (-x) := Real.exp_pos _
  have hup := Real.exp_bound' h0 h1 (n := 3) (by norm_num)
  simp only [Finset.sum_range_succ, Finset.sum_range_zero, Nat.factorial] at hup
  norm_num at hup
  -- Padé: `(2 − x) e^x ≤ (2 − x)·cubic = 2 + x − x³/18 − 2x⁴/9 ≤ 2 + x`
  have hE : (2 - x) * Real.exp x ≤ 2 + x :=
    (mul_le_mul_of_nonneg_left hup (sub_nonneg.mpr (h1.trans one_le_two))).trans
      (by linarith only [pow_nonneg h0 3, pow_nonneg h0 4])
  -- times `e^{−x}`: `2 − x ≤ (2 + x) e^{−x}`
  have hy := mul_le_mul_of_nonneg_right hE hpos.le
  rw [mul_assoc, ← Real.exp_add, add_neg_cancel, Real.exp_zero, mul_one] at hy
  rw [div_le_iff₀ (by positivity)]
  linarith only [hy]

/-- `x/(2(1+x)) ≤ tanh (x/2)` in exponential form, for `0 ≤ x` -/
theorem le_tanh_half (x : ℝ) (h0 : 0 ≤ x) :
    x / (2 * (1 + x)) ≤ (1 - Real.exp (-x)) / (1 + Real.exp (-x)) := by
  have hpos : 0 < Real.exp (-x) := Real.exp_pos _
  -- `x + 1 ≤ e^x` times `e^{−x}`
  have hy := mul_le_mul_of_nonneg_left (Real.add_one_le_exp x) hpos.le
  rw [← Real.exp_add, neg_add_cancel, Real.exp_zero] at hy
  have hle : Real.exp (-x) ≤ 1 := Real.exp_le_one_iff.mpr (neg_nonpos.mpr h0)
  rw [div_le_div_iff₀ (by positivity) (by positivity)]
  linarith only [hy, mul_nonneg h0 (sub_nonneg.mpr hle)]

/-- The two-level system with energies `0`, `1` at `β = 1`, with `A = B` the all-ones matrix and
the library's tolerances `10⁻⁸`, satisfies the hypothesis of
`suscWithTolerances_exact_of_clean_spectrum`: the off-diagonal pairs are split by `1 ≥ 10⁻⁸` and
have residue `|w₀ − w₁| ≥ 1/4 > 10⁻⁸`. -/
theorem twoLevel_clean (n m : Fin 2) :
    (twoLevel 1 1 one_pos).E m = (twoLevel 1 1 one_pos).E n ∨
    ((1 / 10 ^ 8 : ℝ) ≤ |(twoLevel 1 1 one_pos).E m - (twoLevel 1 1 one_pos).E n| ∧
      ((1 / 10 ^ 8 : ℝ) < ‖(Matrix.of fun _ _ => (1 : ℂ) : Matrix (Fin 2) (Fin 2) ℂ) n m
          * (Matrix.of fun _ _ => (1 : ℂ) : Matrix (Fin 2) (Fin 2) ℂ) m n
          * (((twoLevel 1 1 one_pos).w n : ℂ) - ((twoLevel 1 1 one_pos).w m : ℂ))‖ ∨
        (Matrix.of fun _ _ => (1 : ℂ) : Matrix (Fin 2) (Fin 2) ℂ) n m
          * (Matrix.of fun _ _ => (1 : ℂ) : Matrix (Fin 2) (Fin 2) ℂ) m n
          * (((twoLevel 1 1 one_pos).w n : ℂ) - ((twoLevel 1 1 one_pos).w m : ℂ)) = 0)) := by
  have hw : (1 / 4 : ℝ) ≤ (twoLevel 1 1 one_pos).w 0 - (twoLevel 1 1 one_pos).w 1 := by
    rw [twoLevel_w_sub, mul_one]
    refine le_trans ?_ (le_tanh_half 1 zero_le_one)
    norm_num
  have hw8 : (1 / 10 ^ 8 : ℝ) < |(twoLevel 1 1 one_pos).w 0 - (twoLevel 1 1 one_pos).w 1| := by
    rw [abs_of_nonneg (le_trans (by norm_num) hw)]
    exact lt_of_lt_of_le (by norm_num) hw
  have hE0 : (twoLevel 1 1 one_pos).E 0 = 0 := rfl
  have hE1 : (twoLevel 1 1 one_pos).E 1 = 1 := rfl
  simp only [Matrix.of_apply, one_mul, norm_ofReal_sub]
  fin_cases n <;> fin_cases m
  · exact Or.inl rfl
  · refine Or.inr ⟨?_, Or.inl ?_⟩
    · simp only [Fin.zero_eta, Fin.mk_one, hE0, hE1]; norm_num
    · exact hw8
  · refine Or.inr ⟨?_, Or.inl ?_⟩
    · simp only [Fin.zero_eta, Fin.mk_one, hE0, hE1]; norm_num
    · rw [abs_sub_comm]
      exact hw8
  · exact Or.inl rfl

/-- ... hence for this (non-degenerate, non-trivial) system the value with the library's tolerances
is the definition at every bosonic frequency. -/
example (k : ℤ) :
    suscWithTolerances (twoLevel 1 1 one_pos) (Matrix.of fun _ _ => (1 : ℂ))
        (Matrix.of fun _ _ => (1 : ℂ)) k (1 / 10 ^ 8) (1 / 10 ^ 8)
      = (twoLevel 1 1 one_pos).suscDef (Matrix.of fun _ _ => (1 : ℂ))
        (Matrix.of fun _ _ => (1 : ℂ)) k :=
  suscWithTolerances_exact_of_clean_spectrum _ _ _ k _ _ (by norm_num) twoLevel_clean

/-- the defect, parametrically.  Let `A` have the single entry `A n m = a` and `B` the single entry
`B m n = b`, with `E_m ≠ E_n`, the pair outside the resonance window (`rtol ≤ |E_m − E_n|`) and its
residue not above the matrix-element tolerance (`‖a b (w_n − w_m)‖ ≤ mtol`).  Then the value with
tolerances at `k = 0` is `0`, while the definition `∫₀^β ⟨A(τ)B(0)⟩ dτ` is
`a b (w_n − w_m)/(E_m − E_n)` (which tends to `β w_n a b` when the splitting is small).
(`n ≠ m` follows from `E_m ≠ E_n`; `E_m ≠ E_n` follows from `hP` when `0 < rtol`.) -/
theorem residue_filter_loses_static_term (d : EigenData ι) (n m : ι) (a b : ℂ) (rtol mtol : ℝ)
    (hE : d.E m ≠ d.E n) (hP : rtol ≤ |d.E m - d.E n|)
    (hR : ‖a * b * ((d.w n : ℂ) - (d.w m : ℂ))‖ ≤ mtol) :
    suscWithTolerances d (Matrix.single n m a) (Matrix.single m n b) 0 rtol mtol = 0 ∧
    d.suscDef (Matrix.single n m a) (Matrix.single m n b) 0
      = a * b * ((d.w n : ℂ) - (d.w m : ℂ)) / ((d.E m - d.E n : ℝ) : ℂ) := by
  constructor
  · unfold suscWithTolerances
    refine Finset.sum_eq_zero fun n' _ => Finset.sum_eq_zero fun m' _ => ?_
    rw [suscPairWithTolerances_eq]
    by_cases hnm : n = n' ∧ m = m'
    · obtain ⟨rfl, rfl⟩ := hnm
      simp only [Matrix.single_apply_same]
      rw [if_neg (not_lt.mpr hP), if_neg (not_lt.mpr hR)]
    · have hA : Matrix.single n m a n' m' = 0 := Matrix.single_apply_of_ne _ _ _ _ _ hnm
      simp only [hA, zero_mul, neg_zero, zero_div, ite_self]
  · -- of the Lehmann sum only the term of the pair `(n, m)` is left
    rw [lehmann_susc, lehmannSusc_eq_sum_suscTerm, ← Fintype.sum_prod_type',
      Fintype.sum_eq_single (n, m) fun p hp => suscTerm_eq_zero d _ _ 0
        (Matrix.single_apply_of_ne _ _ _ _ _ fun hh => hp (Prod.ext hh.1.symm hh.2.symm))]
    unfold EigenData.suscTerm
    rw [if_neg hE, Omega_zero]
    simp only [Matrix.single_apply_same]
    rw [Complex.ofReal_zero, mul_zero, zero_sub, neg_div_neg_eq]

/-- the defect, quantitatively, with the library's own constants.  Two levels split by
`ΔE = 2·10⁻⁸` at `β = 1`, `A = |0⟩⟨1|`, `B = |1⟩⟨0|`: the pair is outside the resonance window
(`2·10⁻⁸ ≥ 10⁻⁸`), its residue `w₀ − w₁ = tanh(10⁻⁸) ≤ 10⁻⁸` does not pass the filter, so the
library's formula gives `0` for the static susceptibility, while the definition
`∫₀^β ⟨A(τ)B(0)⟩ dτ = (w₀ − w₁)/ΔE` is real and at least `1/5` (it is `≈ 1/2`). -/
theorem residue_filter_counterexample :
    ∃ (d : EigenData (Fin 2)) (A B : Matrix (Fin 2) (Fin 2) ℂ),
      d.β = 1 ∧ d.E = ![0, 2 / 10 ^ 8] ∧ A = Matrix.single 0 1 1 ∧ B = Matrix.single 1 0 1 ∧
      suscWithTolerances d A B 0 Gen.Susc.tolResonance Gen.Susc.tolMatrixElement = 0 ∧
      (d.suscDef A B 0).im = 0 ∧ 1 / 5 ≤ (d.suscDef A B 0).re := by
  have hx0 : (0 : ℝ) ≤ 1 * (2 / 10 ^ 8) := by norm_num
  have hx1 : (1 : ℝ) * (2 / 10 ^ 8) ≤ 1 := by norm_num
  set d := twoLevel 1 (2 / 10 ^ 8) one_pos with hd
  have hE0 : d.E 0 = 0 := rfl
  have hE1 : d.E 1 = 2 / 10 ^ 8 := rfl
  have hup : d.w 0 - d.w 1 ≤ 1 / 10 ^ 8 := by
    rw [hd, twoLevel_w_sub]
    refine (tanh_half_le _ hx0 hx1).trans (le_of_eq ?_)
    norm_num
  have hlow : 1 / 5 * (2 / 10 ^ 8) ≤ d.w 0 - d.w 1 := by
    rw [hd, twoLevel_w_sub]
    refine le_trans ?_ (le_tanh_half _ hx0)
    norm_num
  have hnn : 0 ≤ d.w 0 - d.w 1 := le_trans (by norm_num) hlow
  have hmain := residue_filter_loses_static_term d 0 1 1 1
    Gen.Susc.tolResonance Gen.Susc.tolMatrixElement
    (by rw [hE0, hE1]; norm_num)
    (by rw [susc_tolerances.1, hE0, hE1]; norm_num)
    (by rw [susc_tolerances.2, one_mul, one_mul, norm_ofReal_sub, abs_of_nonneg hnn]; exact hup)
  refine ⟨d, Matrix.single 0 1 1, Matrix.single 1 0 1, rfl, rfl, rfl, rfl, hmain.1, ?_, ?_⟩
  · rw [hmain.2, one_mul, one_mul, ← Complex.ofReal_sub, ← Complex.ofReal_div, Complex.ofReal_im]
  · rw [hmain.2, one_mul, one_mul, ← Complex.ofReal_sub, ← Complex.ofReal_div, Complex.ofReal_re,
      hE0, hE1, le_div_iff₀ (by norm_num), sub_zero]
    exact hlow

end Pomerol.Spec
