/-
  Facts about core `List` functions (`find?`, `findIdx?`, `getD`, `getElem?`, `flatMap`) that several
  modules need and core does not state in this form.  Core Lean only.
-/

namespace Pomerol.Spec

theorem find?_key_iff {α κ : Type} [BEq κ] [LawfulBEq κ] (f : α → κ) {m : List α}
    (h : m.Pairwise fun a b => f a ≠ f b) (k : κ) (q : α) :
    m.find? (fun a => f a == k) = some q ↔ q ∈ m ∧ f q = k := by
  rw [List.find?_eq_some_iff_append, beq_iff_eq]
  constructor
  · rintro ⟨hk, s, t, rfl, -⟩
    exact ⟨List.mem_append_right _ List.mem_cons_self, hk⟩
  · rintro ⟨hq, hk⟩
    obtain ⟨s, t, rfl⟩ := List.append_of_mem hq
    refine ⟨hk, s, t, rfl, fun a ha => ?_⟩
    -- an earlier element with the same key would contradict uniqueness
    have hne := (List.pairwise_append.mp h).2.2 a ha q List.mem_cons_self
    rw [Bool.not_eq_true', beq_eq_false_iff_ne, ← hk]
    exact hne

theorem getD_eq_getElem {α : Type} (l : List α) (d : α) {i : Nat} (h : i < l.length) :
    l.getD i d = l[i] := by
  rw [List.getD_eq_getElem?_getD, List.getElem?_eq_getElem h, Option.getD_some]

theorem getElem?_append_of_eq_some {α : Type} {l : List α} {i : Nat} {a : α} (h : l[i]? = some a)
    (l' : List α) : (l ++ l')[i]? = some a := by
  rw [List.getElem?_append_left (List.getElem?_eq_some_iff.mp h).1, h]

theorem nodup_flatMap_of_key {α β γ : Type} (l : List α) (f : α → List β) (key : β → γ) (kx : α → γ)
    (hl : (l.map kx).Nodup) (hk : ∀ x ∈ l, ∀ y ∈ f x, key y = kx x) (hf : ∀ x ∈ l, (f x).Nodup) :
    (l.flatMap f).Nodup := by
  rw [List.Nodup, List.pairwise_flatMap]
  refine ⟨hf, (List.pairwise_map.1 hl).imp_of_mem fun {a b} ha hb hab x hx y hy hxy => hab ?_⟩
  rw [← hk a ha x hx, hxy, hk b hb y hy]

theorem findIdx?_of_nodup {α : Type} [DecidableEq α] (l : List α) (hl : l.Nodup) (i : Nat) (s : α)
    (h : l[i]? = some s) : l.findIdx? (fun x => decide (x = s)) = some i := by
  rw [List.findIdx?_eq_some_iff_getElem]
  obtain ⟨hi, hget⟩ := List.getElem?_eq_some_iff.mp h
  refine ⟨hi, by simp [hget], fun j hji => ?_⟩
  have hne : l[j]'(Nat.lt_trans hji hi) ≠ l[i] :=
    List.pairwise_iff_getElem.mp hl j i (Nat.lt_trans hji hi) hi hji
  simpa [hget] using hne

end Pomerol.Spec
