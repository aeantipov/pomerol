/-
  Analytic properties of the single-particle Green's function in its Lehmann form (C11), stated through
  the residues `EigenData.res` and poles `EigenData.pole` of the Lehmann terms and the imaginary-time sum
  `EigenData.Gtau`, which are defined here.  The residue sum rule `residue_sum_car` is also what the free
  propagator of `Spec/Wick.lean` (C12) rests on.
-/
import PomerolModel.Spec.Lehmann
import Mathlib.Analysis.SpecificLimits.Basic
import Mathlib.Analysis.Normed.Field.Lemmas

namespace Pomerol.Spec
open Matrix Complex Filter Topology

variable {ι : Type} [Fintype ι] [DecidableEq ι]

set_option linter.unusedSectionVars false

noncomputable def EigenData.res (d : EigenData ι) (C CX : Matrix ι ι ℂ) (n m : ι) : ℂ :=
  C n m * CX m n * ((d.w n : ℂ) + (d.w m : ℂ))

noncomputable def EigenData.pole (d : EigenData ι) (n m : ι) : ℝ := d.E m - d.E n

theorem lehmannG_eq (d : EigenData ι) (C CX : Matrix ι ι ℂ) (z : ℂ) :
    d.lehmannG C CX z = ∑ n, ∑ m, d.res C CX n m / (z - (d.pole n m : ℂ)) := rfl

theorem conj_symm (d : EigenData ι) (C D : Matrix ι ι ℂ) (z : ℂ) :
    (starRingEnd ℂ) (d.lehmannG C Dᴴ z) = d.lehmannG D Cᴴ ((starRingEnd ℂ) z) := by
  unfold EigenData.lehmannG
  rw [map_sum]
  refine Finset.sum_congr rfl fun n _ => ?_
  rw [map_sum]
  refine Finset.sum_congr rfl fun m _ => ?_
  simp only [map_div₀, map_mul, map_add, map_sub, Complex.conj_ofReal, conjTranspose_apply,
    RCLike.star_def, Complex.conj_conj]
  ring

theorem residue_sum_trace (d : EigenData ι) (C CX : Matrix ι ι ℂ) :
    ∑ n, ∑ m, d.res C CX n m = (d.ρ * (C * CX + CX * C)).trace := by
  unfold EigenData.res EigenData.ρ
  rw [Matrix.trace]
  simp only [diag_apply, diagonal_mul, Matrix.add_apply]
  simp only [Matrix.mul_apply]
  have h1 : ∀ n : ι, (d.w n : ℂ) * (∑ m, C n m * CX m n + ∑ m, CX n m * C m n)
      = ∑ m, C n m * CX m n * (d.w n : ℂ) + ∑ m, C m n * CX n m * (d.w n : ℂ) := by
    intro n
    rw [mul_add, Finset.mul_sum, Finset.mul_sum]
    congr 1 <;> exact Finset.sum_congr rfl fun m _ => by ring
  simp_rw [h1, mul_add]
  rw [Finset.sum_add_distrib]
  simp_rw [Finset.sum_add_distrib]
  refine congrArg₂ (· + ·) rfl ?_
  exact Finset.sum_comm

theorem residue_sum_car [Nonempty ι] (d : EigenData ι) (C CX : Matrix ι ι ℂ) (δ : ℂ)
    (hcar : C * CX + CX * C = δ • (1 : Matrix ι ι ℂ)) :
    ∑ n, ∑ m, d.res C CX n m = δ := by
  rw [residue_sum_trace, hcar, Matrix.mul_smul, Matrix.mul_one, Matrix.trace_smul]
  unfold EigenData.ρ
  rw [Matrix.trace_diagonal]
  have : ∑ n, (d.w n : ℂ) = 1 := by
    rw [← Complex.ofReal_sum, w_sum]; simp
  rw [this]; simp

theorem tendsto_mul_div_sub (r P : ℂ) :
    Tendsto (fun z : ℂ => z * (r / (z - P))) (Bornology.cobounded ℂ) (𝓝 r) := by
  have h := ((tendsto_inv₀_cobounded.comp (tendsto_sub_const_cobounded P)).const_mul (r * P)).const_add r
  simp only [Function.comp_apply] at h
  rw [mul_zero, add_zero] at h
  refine h.congr' ?_
  filter_upwards [(Bornology.isBounded_singleton (x := P)).compl] with z hz
  have : z - P ≠ 0 := sub_ne_zero.mpr hz
  field_simp
  ring

theorem tail (d : EigenData ι) (C CX : Matrix ι ι ℂ) :
    Tendsto (fun z : ℂ => z * d.lehmannG C CX z) (Bornology.cobounded ℂ)
      (𝓝 (∑ n, ∑ m, d.res C CX n m)) := by
  simp only [lehmannG_eq, Finset.mul_sum]
  exact tendsto_finsetSum _ fun n _ => tendsto_finsetSum _ fun m _ => tendsto_mul_div_sub _ _

theorem res_diag (d : EigenData ι) (C : Matrix ι ι ℂ) (n m : ι) :
    d.res C Cᴴ n m = ((Complex.normSq (C n m) * (d.w n + d.w m) : ℝ) : ℂ) := by
  unfold EigenData.res
  rw [conjTranspose_apply, RCLike.star_def, Complex.mul_conj]
  push_cast; ring

theorem im_term (r ω P : ℝ) (hω : 0 < ω) :
    ((r : ℂ) / (I * (ω : ℂ) - (P : ℂ))).im = -(r * ω / (ω ^ 2 + P ^ 2)) := by
  have hpos : 0 < ω ^ 2 + P ^ 2 := by positivity
  rw [Complex.div_im]
  simp [Complex.normSq_apply]
  field_simp
  ring

theorem im_negative [Nonempty ι] (d : EigenData ι) (C : Matrix ι ι ℂ)
    (hcar : C * Cᴴ + Cᴴ * C = 1) (ω : ℝ) (hω : 0 < ω) :
    (d.lehmannG C Cᴴ (I * (ω : ℂ))).im < 0 := by
  set r : ι × ι → ℝ := fun p => Complex.normSq (C p.1 p.2) * (d.w p.1 + d.w p.2) with hr
  have hr0 : ∀ p, 0 ≤ r p := fun p =>
    mul_nonneg (Complex.normSq_nonneg _) (add_nonneg (w_nonneg d p.1) (w_nonneg d p.2))
  -- the residues are `≥ 0` and add up to 1, so one of them is positive
  have hsum : ∑ p, r p = 1 := by
    have h := residue_sum_car d C Cᴴ 1 (by rw [hcar, one_smul])
    simp_rw [res_diag, ← Complex.ofReal_sum, Complex.ofReal_eq_one] at h
    rw [Fintype.sum_prod_type]
    exact h
  obtain ⟨p, -, hp⟩ := Finset.exists_ne_zero_of_sum_ne_zero (hsum.trans_ne one_ne_zero)
  have him : (d.lehmannG C Cᴴ (I * (ω : ℂ))).im
      = -∑ q : ι × ι, r q * ω / (ω ^ 2 + d.pole q.1 q.2 ^ 2) := by
    rw [lehmannG_eq, Complex.im_sum, Fintype.sum_prod_type]
    simp_rw [Complex.im_sum, res_diag, im_term _ ω _ hω, Finset.sum_neg_distrib]
    rfl
  have hden : ∀ P : ℝ, 0 < ω ^ 2 + P ^ 2 := fun P =>
    add_pos_of_pos_of_nonneg (pow_pos hω 2) (sq_nonneg P)
  rw [him, neg_lt_zero]
  exact Finset.sum_pos' (fun q _ => div_nonneg (mul_nonneg (hr0 q) hω.le) (hden _).le)
    ⟨p, Finset.mem_univ p, div_pos (mul_pos ((hr0 p).lt_of_ne' hp) hω) (hden _)⟩

/-- imaginary-time Green's function as the library evaluates it -/
noncomputable def EigenData.Gtau (d : EigenData ι) (C CX : Matrix ι ι ℂ) (τ : ℝ) : ℂ :=
  ∑ n, ∑ m, tauTerm d.β (d.res C CX n m) (d.pole n m) τ

/-- closed form of one τ-domain term: the Fermi factor cancels against `w_n + w_m` -/
theorem tauTerm_res (d : EigenData ι) (C CX : Matrix ι ι ℂ) (n m : ι) (τ : ℝ) :
    tauTerm d.β (d.res C CX n m) (d.pole n m) τ
      = -(C n m * CX m n * (d.w n : ℂ) * Complex.exp (-(τ:ℂ) * (d.pole n m : ℂ))) := by
  unfold tauTerm EigenData.res
  have hw : (d.w m : ℂ) = (d.w n : ℂ) * Complex.exp (-(d.β:ℂ) * (d.pole n m : ℂ)) :=
    w_ratio_cast d n m
  rw [hw, div_eq_iff (one_add_exp_beta_ne_zero d.β (d.pole n m))]
  ring

theorem Gtau_closed (d : EigenData ι) (C CX : Matrix ι ι ℂ) (τ : ℝ) :
    d.Gtau C CX τ
      = -∑ n, ∑ m, C n m * CX m n * (d.w n : ℂ) * Complex.exp (-(τ:ℂ) * (d.pole n m : ℂ)) := by
  unfold EigenData.Gtau
  simp_rw [tauTerm_res, Finset.sum_neg_distrib]

theorem Gtau_eq_corr (d : EigenData ι) (C CX : Matrix ι ι ℂ) (τ : ℝ) :
    d.Gtau C CX τ = -d.corr C CX τ := by
  rw [Gtau_closed, corr_eq_sum]
  unfold EigenData.pole
  rw [neg_inj]
  exact Finset.sum_congr rfl fun n _ => Finset.sum_congr rfl fun m _ => by ring

theorem Gtau_nonpos (d : EigenData ι) (C : Matrix ι ι ℂ) (τ : ℝ) :
    (d.Gtau C Cᴴ τ).im = 0 ∧ (d.Gtau C Cᴴ τ).re ≤ 0 := by
  have h : d.Gtau C Cᴴ τ
      = ((-∑ n, ∑ m, Complex.normSq (C n m) * d.w n * Real.exp (-τ * d.pole n m) : ℝ) : ℂ) := by
    rw [Gtau_closed]
    push_cast
    rw [neg_inj]
    refine Finset.sum_congr rfl fun n _ => Finset.sum_congr rfl fun m _ => ?_
    rw [conjTranspose_apply, RCLike.star_def, Complex.mul_conj]
  rw [h]
  refine ⟨Complex.ofReal_im _, ?_⟩
  rw [Complex.ofReal_re, neg_nonpos]
  exact Finset.sum_nonneg fun n _ => Finset.sum_nonneg fun m _ =>
    mul_nonneg (mul_nonneg (Complex.normSq_nonneg _) (w_nonneg d n)) (Real.exp_pos _).le

theorem tauTerm_jump (β : ℝ) (R : ℂ) (P : ℝ) :
    tauTerm β R P 0 + tauTerm β R P β = -R := by
  unfold tauTerm
  rw [← add_div, div_eq_iff (one_add_exp_beta_ne_zero β P), Complex.ofReal_zero, neg_zero, zero_mul,
    Complex.exp_zero]
  ring

theorem Gtau_jump (d : EigenData ι) (C CX : Matrix ι ι ℂ) :
    d.Gtau C CX 0 + d.Gtau C CX d.β = -(∑ n, ∑ m, d.res C CX n m) := by
  unfold EigenData.Gtau
  rw [← Finset.sum_add_distrib, ← Finset.sum_neg_distrib]
  refine Finset.sum_congr rfl fun n _ => ?_
  rw [← Finset.sum_add_distrib, ← Finset.sum_neg_distrib]
  exact Finset.sum_congr rfl fun m _ => tauTerm_jump _ _ _

theorem Gtau_beta (d : EigenData ι) (C CX : Matrix ι ι ℂ) :
    d.Gtau C CX d.β = -(d.ρ * CX * C).trace := by
  rw [Gtau_closed]
  rw [neg_inj]
  unfold EigenData.ρ
  rw [Matrix.trace]
  simp only [diag_apply, Matrix.mul_apply (N := C), diagonal_mul]
  rw [Finset.sum_comm]
  refine Finset.sum_congr rfl fun m _ => Finset.sum_congr rfl fun n _ => ?_
  have hw : (d.w m : ℂ) = (d.w n : ℂ) * Complex.exp (-(d.β:ℂ) * (d.pole n m : ℂ)) :=
    w_ratio_cast d n m
  rw [hw]; ring

theorem Gtau_transform (d : EigenData ι) (C CX : Matrix ι ι ℂ) (k : ℤ) :
    ∫ τ in (0:ℝ)..d.β, d.Gtau C CX τ * Complex.exp (I * (d.ω k : ℂ) * (τ:ℂ))
      = d.lehmannG C CX (I * (d.ω k : ℂ)) := by
  rw [← lehmann_single]
  unfold EigenData.Gdef
  simp_rw [Gtau_eq_corr, neg_mul]
  exact intervalIntegral.integral_neg

end Pomerol.Spec
