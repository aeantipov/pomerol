/-
  C18: the index bookkeeping of `IndexClassification` is a bijection between the valid
  (label, orbital, spin) triples of a lattice and `0 .. IndexSize-1`, for both ordering modes.
-/
import PomerolModel.Model.Index
import PomerolModel.Spec.ListLemmas
import Mathlib.Data.List.Nodup

namespace Pomerol.Spec.IndexBij
open Pomerol.Model Pomerol.Model.Lat Pomerol.Model.Idx Pomerol.Gen.Core

def Valid (sites : List Site) (x : IndexInfo) : Prop :=
  ∃ s ∈ sites, s.label = x.label ∧ x.orb < s.norb ∧ x.spin < s.nspin

private theorem foldl_max_ge (sites : List Site) (m : Nat) :
    m ≤ sites.foldl (fun m s => if s.nspin > m then s.nspin else m) m ∧
    ∀ s ∈ sites, s.nspin ≤ sites.foldl (fun m s => if s.nspin > m then s.nspin else m) m := by
  induction sites generalizing m with
  | nil => simp
  | cons t rest ih =>
    simp only [List.foldl_cons, List.mem_cons, forall_eq_or_imp]
    have h := ih (if t.nspin > m then t.nspin else m)
    have h1 : m ≤ (if t.nspin > m then t.nspin else m) := by split <;> omega
    have h2 : t.nspin ≤ (if t.nspin > m then t.nspin else m) := by split <;> omega
    exact ⟨Nat.le_trans h1 h.1, Nat.le_trans h2 h.1, h.2⟩

theorem le_maxSpin {sites : List Site} {s : Site} (hs : s ∈ sites) : s.nspin ≤ maxSpin sites :=
  (foldl_max_ge sites 0).2 s hs

private theorem mem_siteMajor (sites : List Site) (x : IndexInfo) :
    x ∈ enumerate sites false ↔ Valid sites x := by
  simp only [enumerate, Bool.false_eq_true, if_false, List.mem_flatMap, List.mem_map,
    List.mem_range, Valid]
  constructor
  · rintro ⟨s, hs, i, hi, z, hz, rfl⟩
    exact ⟨s, hs, rfl, hi, hz⟩
  · rintro ⟨s, hs, hl, ho, hz⟩
    refine ⟨s, hs, x.orb, ho, x.spin, hz, ?_⟩
    cases x; simp_all

private theorem nodup_siteMajor (sites : List Site) (hd : (sites.map (·.label)).Nodup) :
    (enumerate sites false).Nodup := by
  simp only [enumerate, Bool.false_eq_true, if_false]
  -- every entry records its site (by the label) and, within a site, its orbital
  refine nodup_flatMap_of_key _ _ (·.label) (·.label) hd ?_ fun s _ => ?_
  · intro s _ y hy
    simp only [List.mem_flatMap, List.mem_map] at hy
    obtain ⟨_, _, _, _, rfl⟩ := hy
    rfl
  · refine nodup_flatMap_of_key _ _ (·.orb) id (by rw [List.map_id]; exact List.nodup_range) ?_
      fun i _ => ?_
    · intro i _ y hy
      obtain ⟨_, _, rfl⟩ := List.mem_map.1 hy
      rfl
    · exact List.Nodup.map_on (fun a _ b _ h => by injection h) List.nodup_range

private theorem length_siteMajor (sites : List Site) :
    (enumerate sites false).length = indexSize sites := by
  simp [enumerate, indexSize, List.length_flatMap]

private theorem mem_siteSpinEntries (s : Site) (z : Nat) (x : IndexInfo) :
    x ∈ siteSpinEntries s z ↔ x.label = s.label ∧ x.orb < s.norb ∧ x.spin = z := by
  simp only [siteSpinEntries, List.mem_map, List.mem_range]
  constructor
  · rintro ⟨i, hi, rfl⟩; exact ⟨rfl, hi, rfl⟩
  · rintro ⟨h1, h2, h3⟩
    refine ⟨x.orb, h2, ?_⟩
    cases x; simp_all

private theorem mem_spinMajorSites (z : Nat) (sites : List Site) (x : IndexInfo) :
    x ∈ spinMajorSites false z sites ↔
      x.spin = z ∧ ∃ s ∈ sites, s.label = x.label ∧ x.orb < s.norb ∧ z < s.nspin := by
  induction sites with
  | nil => simp [spinMajorSites]
  | cons s rest ih =>
    simp only [spinMajorSites, Bool.false_eq_true, if_false, List.mem_cons, exists_eq_or_imp]
    split
    · rename_i h
      rw [ih]
      constructor
      · rintro ⟨h1, h2⟩; exact ⟨h1, Or.inr h2⟩
      · rintro ⟨h1, h2 | h2⟩
        · exact absurd h2.2.2 (Nat.not_lt_of_le h)
        · exact ⟨h1, h2⟩
    · rename_i h
      rw [List.mem_append, ih, mem_siteSpinEntries]
      constructor
      · rintro (⟨h1, h2, h3⟩ | ⟨h1, h2⟩)
        · exact ⟨h3, Or.inl ⟨h1.symm, h2, Nat.lt_of_not_le h⟩⟩
        · exact ⟨h1, Or.inr h2⟩
      · rintro ⟨h1, ⟨h2, h3, h4⟩ | h2⟩
        · exact Or.inl ⟨h2.symm, h3, h1⟩
        · exact Or.inr ⟨h1, h2⟩

private theorem nodup_siteSpinEntries (s : Site) (z : Nat) : (siteSpinEntries s z).Nodup := by
  refine List.Nodup.map_on ?_ List.nodup_range
  intro a _ b _ h
  injection h

private theorem nodup_spinMajorSites (z : Nat) (sites : List Site)
    (hd : (sites.map (·.label)).Nodup) : (spinMajorSites false z sites).Nodup := by
  induction sites with
  | nil => simp [spinMajorSites]
  | cons s rest ih =>
    simp only [List.map_cons, List.nodup_cons, List.mem_map, not_exists, not_and] at hd
    simp only [spinMajorSites, Bool.false_eq_true, if_false]
    split
    · exact ih hd.2
    · rw [List.nodup_append]
      refine ⟨nodup_siteSpinEntries s z, ih hd.2, ?_⟩
      intro a ha b hb hab
      subst hab
      rw [mem_siteSpinEntries] at ha
      rw [mem_spinMajorSites] at hb
      obtain ⟨_, t, ht, hl, _⟩ := hb
      exact hd.1 t ht (hl.trans ha.1)

private theorem mem_spinMajor (sites : List Site) (x : IndexInfo) :
    x ∈ enumerate sites true ↔ Valid sites x := by
  simp only [enumerate, if_true, spinMajorBreaks, List.mem_flatMap, List.mem_range,
    mem_spinMajorSites, Valid]
  constructor
  · rintro ⟨z, _, rfl, s, hs, h1, h2, h3⟩
    exact ⟨s, hs, h1, h2, h3⟩
  · rintro ⟨s, hs, h1, h2, h3⟩
    exact ⟨x.spin, Nat.lt_of_lt_of_le h3 (le_maxSpin hs), rfl, s, hs, h1, h2, h3⟩

private theorem nodup_spinMajor (sites : List Site) (hd : (sites.map (·.label)).Nodup) (M : Nat) :
    ((List.range M).flatMap fun z => spinMajorSites false z sites).Nodup :=
  nodup_flatMap_of_key _ _ (·.spin) id (by rw [List.map_id]; exact List.nodup_range)
    (fun z _ y hy => ((mem_spinMajorSites z sites y).1 hy).1)
    fun z _ => nodup_spinMajorSites z sites hd

private theorem length_spinMajor_cons (s : Site) (rest : List Site) (M : Nat) :
    ((List.range M).flatMap fun z => spinMajorSites false z (s :: rest)).length =
      s.norb * min M s.nspin +
        ((List.range M).flatMap fun z => spinMajorSites false z rest).length := by
  induction M with
  | zero => simp
  | succ M ih =>
    rw [List.range_succ, List.flatMap_append, List.length_append, ih,
      List.flatMap_append, List.length_append]
    simp only [List.flatMap_cons, List.flatMap_nil, List.append_nil, spinMajorSites,
      Bool.false_eq_true, if_false]
    by_cases h : M ≥ s.nspin
    · rw [if_pos h, Nat.min_eq_right h, Nat.min_eq_right (Nat.le_succ_of_le h)]
      omega
    · have hlt : M < s.nspin := Nat.lt_of_not_le h
      rw [if_neg h, Nat.min_eq_left (Nat.le_of_lt hlt), Nat.min_eq_left hlt, List.length_append]
      simp only [siteSpinEntries, List.length_map, List.length_range, Nat.mul_succ]
      omega

private theorem length_spinMajor (sites : List Site) (M : Nat) (hM : ∀ s ∈ sites, s.nspin ≤ M) :
    ((List.range M).flatMap fun z => spinMajorSites false z sites).length = indexSize sites := by
  induction sites with
  | nil => simp [spinMajorSites, indexSize]
  | cons s rest ih =>
    rw [length_spinMajor_cons, ih (fun t ht => hM t (List.mem_cons_of_mem _ ht)),
      Nat.min_eq_right (hM s List.mem_cons_self)]
    simp [indexSize]

theorem enumerate_mem (sites : List Site) (mode : Bool) (x : IndexInfo) :
    x ∈ enumerate sites mode ↔ Valid sites x := by
  cases mode
  · exact mem_siteMajor sites x
  · exact mem_spinMajor sites x

theorem enumerate_nodup (sites : List Site) (hd : (sites.map (·.label)).Nodup) (mode : Bool) :
    (enumerate sites mode).Nodup := by
  cases mode
  · exact nodup_siteMajor sites hd
  · exact nodup_spinMajor sites hd _

theorem enumerate_length (sites : List Site) (mode : Bool) :
    (enumerate sites mode).length = indexSize sites := by
  cases mode
  · exact length_siteMajor sites
  · exact length_spinMajor sites _ (fun s hs => le_maxSpin hs)

theorem prepare_ok (sites : List Site) (mode : Bool) :
    prepare sites mode = .ok (enumerate sites mode) := by
  simp [prepare, enumerate_length]

theorem getIndex_eq_idxOf (tbl : List IndexInfo) (x : IndexInfo) : getIndex tbl x = tbl.idxOf x := by
  unfold getIndex
  have h : tbl.idxOf x = (tbl.findIdx? (· = x)).getD tbl.length := by
    rw [← List.findIdx_eq_getD_findIdx?]
    rfl
  rw [h]
  cases tbl.findIdx? (· = x) <;> rfl

theorem getIndex_lt {tbl : List IndexInfo} {x : IndexInfo} (hx : x ∈ tbl) :
    getIndex tbl x < tbl.length := by
  rw [getIndex_eq_idxOf]; exact List.idxOf_lt_length_iff.mpr hx

theorem getIndex_not_mem {tbl : List IndexInfo} {x : IndexInfo} (hx : x ∉ tbl) :
    getIndex tbl x = tbl.length := by
  rw [getIndex_eq_idxOf]; exact List.idxOf_eq_length_iff.mpr hx

theorem getIndex_getElem {tbl : List IndexInfo} (hn : tbl.Nodup) (i : Nat) (hi : i < tbl.length) :
    getIndex tbl tbl[i] = i := by
  rw [getIndex_eq_idxOf]; exact hn.idxOf_getElem i hi

theorem getElem_getIndex {tbl : List IndexInfo} {x : IndexInfo} (hx : x ∈ tbl) :
    tbl[getIndex tbl x]'(getIndex_lt hx) = x := by
  simp only [getIndex_eq_idxOf]
  exact List.getElem_idxOf _

/-- the other triple may be absent: it then has the index `tbl.length` -/
theorem getIndex_inj {tbl : List IndexInfo} {x y : IndexInfo} (hx : x ∈ tbl)
    (h : getIndex tbl x = getIndex tbl y) : x = y := by
  by_cases hy : y ∈ tbl
  · rw [← getElem_getIndex hx, ← getElem_getIndex hy]
    simp only [h]
  · have := getIndex_lt hx
    rw [h, getIndex_not_mem hy] at this
    exact absurd this (Nat.lt_irrefl _)

theorem getIndex_getInfo (sites : List Site) (hd : (sites.map (·.label)).Nodup) (mode : Bool)
    (i : Nat) (hi : i < indexSize sites) :
    ∃ x, getInfo (enumerate sites mode) i = .ok x ∧ getIndex (enumerate sites mode) x = i ∧
      Valid sites x := by
  have hi' : i < (enumerate sites mode).length := by rw [enumerate_length]; exact hi
  refine ⟨(enumerate sites mode)[i], ?_, getIndex_getElem (enumerate_nodup sites hd mode) i hi', ?_⟩
  · simp [getInfo, List.getElem?_eq_getElem hi']
  · exact (enumerate_mem sites mode _).1 (List.getElem_mem hi')

theorem getInfo_getIndex (sites : List Site) (hd : (sites.map (·.label)).Nodup) (mode : Bool)
    (x : IndexInfo) (hx : Valid sites x) :
    getIndex (enumerate sites mode) x < indexSize sites ∧
      getInfo (enumerate sites mode) (getIndex (enumerate sites mode) x) = .ok x := by
  have hm := (enumerate_mem sites mode x).2 hx
  obtain ⟨i, hi, rfl⟩ := List.getElem_of_mem hm
  rw [getIndex_getElem (enumerate_nodup sites hd mode) i hi]
  refine ⟨by rw [← enumerate_length sites mode]; exact hi, ?_⟩
  simp [getInfo, List.getElem?_eq_getElem hi]

theorem getIndex_invalid (sites : List Site) (mode : Bool) (x : IndexInfo) (hx : ¬ Valid sites x) :
    getIndex (enumerate sites mode) x = indexSize sites := by
  rw [getIndex_not_mem (fun h => hx ((enumerate_mem sites mode x).1 h)), enumerate_length]

theorem getInfo_out_of_range (sites : List Site) (mode : Bool) (i : Nat)
    (hi : indexSize sites ≤ i) : getInfo (enumerate sites mode) i = .error .wrongIndex := by
  have : (enumerate sites mode)[i]? = none := by
    rw [List.getElem?_eq_none_iff, enumerate_length]; exact hi
  simp [getInfo, this]

theorem modes_perm (sites : List Site) (hd : (sites.map (·.label)).Nodup) :
    (enumerate sites true).Perm (enumerate sites false) := by
  rw [List.perm_ext_iff_of_nodup (enumerate_nodup sites hd true) (enumerate_nodup sites hd false)]
  intro a
  rw [enumerate_mem, enumerate_mem]

end Pomerol.Spec.IndexBij
