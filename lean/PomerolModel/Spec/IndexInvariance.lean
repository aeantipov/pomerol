/-
  C18, second sentence: "Renaming sites or switching the ordering mode changes every result only by
  the induced permutation of indices."

  Everything the library computes downstream of `IndexHamiltonian` is a function of the Hamiltonian
  read as an OPERATOR and of the field operators `c_i`, `c†_i`.  So the invariance is proved for
  denotations in an arbitrary CAR representation: the Hamiltonian of one setting, read in the
  renumbered representation `c ∘ π` (`CARRep.reindex`), is the Hamiltonian of the other setting read
  in `c`; inside one representation the renumbering is conjugation by a product of fermionic swaps,
  so the two Hamiltonian matrices are similar.  For the stored polynomials the statement would be
  false (`mapIdx_not_normal_ordered`).

  The statements need `c_i² = c†_i² = 0`: it follows from the CAR in every algebra without 2-torsion
  and holds for the Jordan-Wigner matrices.
-/
import PomerolModel.Properties.C04Hamiltonian
import PomerolModel.Spec.LatticeProps
import PomerolModel.Spec.IndexBij
import PomerolModel.Spec.ListLemmas
import PomerolModel.Spec.JW
import Mathlib.Data.List.Perm.Basic
import Mathlib.Data.List.Nodup
import Mathlib.Logic.Equiv.Basic
import Mathlib.Tactic.Abel

set_option linter.unusedSectionVars false

namespace Pomerol.Spec.IndexInvariance
open Pomerol.Model Pomerol.Model.Lat Pomerol.Model.Idx Pomerol.Spec Pomerol.Spec.IndexBij
open Pomerol.Properties.C04

section Reindex
variable {K A : Type} [CommRing K] [Ring A] [Algebra K A]

def _root_.Pomerol.Spec.CARRep.reindex (r : CARRep K A) (π : Nat → Nat)
    (hπ : Function.Injective π) : CARRep K A where
  c := fun i => r.c (π i)
  cd := fun i => r.cd (π i)
  cc := fun i j => r.cc (π i) (π j)
  cdcd := fun i j => r.cdcd (π i) (π j)
  ccd := fun i j => by
    rw [r.ccd (π i) (π j)]
    by_cases h : i = j
    · subst h; simp
    · rw [if_neg h, if_neg (fun h' => h (hπ h'))]

@[simp] theorem reindex_c (r : CARRep K A) (π : Nat → Nat) (hπ : Function.Injective π) (i : Nat) :
    (r.reindex π hπ).c i = r.c (π i) := rfl

@[simp] theorem reindex_cd (r : CARRep K A) (π : Nat → Nat) (hπ : Function.Injective π) (i : Nat) :
    (r.reindex π hπ).cd i = r.cd (π i) := rfl

def mapIdxOp (π : Nat → Nat) (o : Op) : Op := ⟨o.ann, π o.idx⟩

def mapIdxMono (π : Nat → Nat) (m : Mono) : Mono := m.map (mapIdxOp π)

/-- rename the indices of a polynomial, monomial by monomial (no re-sorting, no normal ordering:
the result is a list of monomials with coefficients that denotes the renamed operator, it need
not be in the canonical form of the library) -/
def mapIdx (π : Nat → Nat) (p : Poly K) : Poly K := p.map fun mc => (mapIdxMono π mc.1, mc.2)

theorem reindex_op (r : CARRep K A) (π : Nat → Nat) (hπ : Function.Injective π) (o : Op) :
    (r.reindex π hπ).op o = r.op (mapIdxOp π o) := by
  obtain ⟨a, i⟩ := o
  cases a <;> rfl

theorem reindex_mono (r : CARRep K A) (π : Nat → Nat) (hπ : Function.Injective π) (m : Mono) :
    (r.reindex π hπ).mono m = r.mono (mapIdxMono π m) := by
  induction m with
  | nil => simp [mapIdxMono]
  | cons a m ih =>
    rw [mono_cons, ih, reindex_op]
    simp [mapIdxMono]

theorem reindex_poly (r : CARRep K A) (π : Nat → Nat) (hπ : Function.Injective π) (p : Poly K) :
    (r.reindex π hπ).poly p = r.poly (mapIdx π p) := by
  induction p with
  | nil => simp [mapIdx]
  | cons mc p ih =>
    obtain ⟨m, c⟩ := mc
    rw [poly_cons, ih, reindex_mono]
    simp [mapIdx]

end Reindex

section Tables

/-- The map of indices induced by two tables and a map `f` of triples: an index `i` of the first
table is sent to the index, in the second table, of the `f`-image of the triple stored at `i`;
indices outside the first table are left alone. -/
def tableMap (tbl tbl' : List IndexInfo) (f : IndexInfo → IndexInfo) (i : Nat) : Nat :=
  match tbl[i]? with
  | some x => getIndex tbl' (f x)
  | none => i

variable {tbl tbl' : List IndexInfo} {f : IndexInfo → IndexInfo}

theorem tableMap_of_lt (i : Nat) (hi : i < tbl.length) :
    tableMap tbl tbl' f i = getIndex tbl' (f tbl[i]) := by
  simp [tableMap, List.getElem?_eq_getElem hi]

theorem tableMap_of_ge (i : Nat) (hi : tbl.length ≤ i) : tableMap tbl tbl' f i = i := by
  simp [tableMap, List.getElem?_eq_none_iff.mpr hi]

theorem tableMap_lt (hp : tbl'.Perm (tbl.map f)) (i : Nat) (hi : i < tbl.length) :
    tableMap tbl tbl' f i < tbl.length := by
  rw [tableMap_of_lt i hi]
  have hm : f tbl[i] ∈ tbl' := hp.mem_iff.mpr (List.mem_map.mpr ⟨_, List.getElem_mem hi, rfl⟩)
  have := getIndex_lt hm
  rwa [hp.length_eq, List.length_map] at this

theorem tableMap_injective (hn' : tbl'.Nodup) (hp : tbl'.Perm (tbl.map f)) :
    Function.Injective (tableMap tbl tbl' f) := by
  have hnm : (tbl.map f).Nodup := hp.nodup_iff.mp hn'
  intro i j hij
  by_cases hi : i < tbl.length <;> by_cases hj : j < tbl.length
  · rw [tableMap_of_lt i hi, tableMap_of_lt j hj] at hij
    have hmi : f tbl[i] ∈ tbl' := hp.mem_iff.mpr (List.mem_map.mpr ⟨_, List.getElem_mem hi, rfl⟩)
    have hf := getIndex_inj hmi hij
    have hi' : i < (tbl.map f).length := by rw [List.length_map]; exact hi
    have hj' : j < (tbl.map f).length := by rw [List.length_map]; exact hj
    have : (tbl.map f)[i] = (tbl.map f)[j] := by simpa using hf
    exact (hnm.getElem_inj_iff (hi := hi') (hj := hj')).1 this
  · have h1 := tableMap_lt (f := f) hp i hi
    rw [hij, tableMap_of_ge j (Nat.le_of_not_lt hj)] at h1
    exact absurd h1 hj
  · have h1 := tableMap_lt (f := f) hp j hj
    rw [← hij, tableMap_of_ge i (Nat.le_of_not_lt hi)] at h1
    exact absurd h1 hi
  · rwa [tableMap_of_ge i (Nat.le_of_not_lt hi), tableMap_of_ge j (Nat.le_of_not_lt hj)] at hij

theorem tableMap_bijective (hn' : tbl'.Nodup) (hp : tbl'.Perm (tbl.map f)) :
    Function.Bijective (tableMap tbl tbl' f) := by
  refine ⟨tableMap_injective hn' hp, fun j => ?_⟩
  by_cases hj : j < tbl.length
  · -- the entry at `j` of the second table is the image of some entry `i` of the first
    have hj' : j < tbl'.length := by rw [hp.length_eq, List.length_map]; exact hj
    obtain ⟨x, hx, hfx⟩ := List.mem_map.1 (hp.mem_iff.1 (List.getElem_mem hj'))
    obtain ⟨i, hi, rfl⟩ := List.getElem_of_mem hx
    exact ⟨i, by rw [tableMap_of_lt i hi, hfx, getIndex_getElem hn' j hj']⟩
  · exact ⟨j, tableMap_of_ge j (Nat.le_of_not_lt hj)⟩

/-- `hx` also holds for a triple absent from both tables: both lookups then return the "not found"
value `N`. -/
theorem tableMap_getIndex (hn : tbl.Nodup) (hp : tbl'.Perm (tbl.map f)) (x : IndexInfo)
    (hx : x ∈ tbl ↔ f x ∈ tbl') :
    tableMap tbl tbl' f (getIndex tbl x) = getIndex tbl' (f x) := by
  by_cases h : x ∈ tbl
  · obtain ⟨i, hi, rfl⟩ := List.getElem_of_mem h
    rw [getIndex_getElem hn i hi, tableMap_of_lt i hi]
  · rw [getIndex_not_mem h, tableMap_of_ge _ (Nat.le_refl _),
      getIndex_not_mem (fun h' => h (hx.mpr h')), hp.length_eq, List.length_map]

end Tables

section Denot
open scoped Pomerol.Spec.Exact
variable {K A : Type} [CommRing K] [DecidableEq K] [Ring A] [Algebra K A]

theorem factorDenot_reindex (r : CARRep K A) (π : Nat → Nat) (hπ : Function.Injective π)
    (fc : Bool × Nat) : factorDenot (r.reindex π hπ) fc = factorDenot r (fc.1, π fc.2) := by
  obtain ⟨b, i⟩ := fc
  cases b <;> rfl

theorem termDenot_reindex (r : CARRep K A) (π : Nat → Nat) (hπ : Function.Injective π)
    (tbl tbl' : List IndexInfo) (t t' : Term K) (hv : t'.value = t.value)
    (hf : termFactors tbl' t' = (termFactors tbl t).map fun fc => (fc.1, π fc.2)) :
    termDenot r tbl' t' = termDenot (r.reindex π hπ) tbl t := by
  unfold termDenot
  rw [hf]
  cases h : termFactors tbl t with
  | nil => rfl
  | cons a l =>
    simp only [List.map_cons, List.map_map, hv, factorDenot_reindex]
    rfl

section
variable (r : CARRep K A) (π : Nat → Nat) (hπ : Function.Injective π)
  (tbl tbl' : List IndexInfo) (L L' : Lat.Lattice K) (g : Term K → Term K)
  (hmax : L'.maxOrder = L.maxOrder)
  (hterms : ∀ n, getTerms L' n = (getTerms L n).map g)
  (hv : ∀ n, ∀ t ∈ getTerms L n, (g t).value = t.value)
  (hf : ∀ n, ∀ t ∈ getTerms L n,
    termFactors tbl' (g t) = (termFactors tbl t).map fun fc => (fc.1, π fc.2))
include hmax hterms hv hf

theorem latticeDenot_reindex :
    latticeDenot r L' tbl' = latticeDenot (r.reindex π hπ) L tbl := by
  unfold latticeDenot
  rw [hmax]
  congr 1
  refine List.map_congr_left fun n _ => ?_
  rw [hterms n, List.map_map]
  congr 1
  refine List.map_congr_left fun t ht => ?_
  exact termDenot_reindex r π hπ tbl tbl' t (g t) (hv n t ht) (hf n t ht)

/-- **Core statement**, of which the mode switch and the renaming of the sites are instances: the first
Hamiltonian read in the renumbered representation `c ∘ π` is the second read in `c`. -/
theorem indexHamiltonian_reindex (hc : ∀ i, r.c i * r.c i = 0) (hcd : ∀ i, r.cd i * r.cd i = 0) :
    ∃ H H' : Poly K, indexHamiltonian L tbl = some H ∧ indexHamiltonian L' tbl' = some H' ∧
      (r.reindex π hπ).poly H = r.poly H' := by
  obtain ⟨H, hH⟩ := Option.isSome_iff_exists.mp (index_hamiltonian_total L tbl)
  obtain ⟨H', hH'⟩ := Option.isSome_iff_exists.mp (index_hamiltonian_total L' tbl')
  refine ⟨H, H', hH, hH', ?_⟩
  rw [hamiltonian_is_sum_of_terms (r.reindex π hπ) (fun i => hc (π i)) (fun i => hcd (π i))
      L tbl H hH,
    hamiltonian_is_sum_of_terms r hc hcd L' tbl' H' hH',
    latticeDenot_reindex r π hπ tbl tbl' L L' g hmax hterms hv hf]

end

end Denot

section ModeSwitch
open scoped Pomerol.Spec.Exact
variable {K A : Type} [CommRing K] [DecidableEq K] [Ring A] [Algebra K A]

/-- the renumbering induced by switching from the site-major mode (`order_spins = false`) to the
spin-major mode (`order_spins = true`): the index of a triple in the site-major table is sent to the
index of the same triple in the spin-major table; indices `≥ IndexSize` are left alone -/
def modePerm (sites : List Site) : Nat → Nat :=
  tableMap (enumerate sites false) (enumerate sites true) id

theorem modes_perm_map_id (sites : List Site) (hd : (sites.map (·.label)).Nodup) :
    (enumerate sites true).Perm ((enumerate sites false).map id) := by
  rw [List.map_id]; exact modes_perm sites hd

theorem modePerm_injective (sites : List Site) (hd : (sites.map (·.label)).Nodup) :
    Function.Injective (modePerm sites) :=
  tableMap_injective (enumerate_nodup sites hd true) (modes_perm_map_id sites hd)

theorem modePerm_bijective (sites : List Site) (hd : (sites.map (·.label)).Nodup) :
    Function.Bijective (modePerm sites) :=
  tableMap_bijective (enumerate_nodup sites hd true) (modes_perm_map_id sites hd)

theorem modePerm_lt (sites : List Site) (hd : (sites.map (·.label)).Nodup) (i : Nat)
    (hi : i < indexSize sites) : modePerm sites i < indexSize sites := by
  have := tableMap_lt (modes_perm_map_id sites hd) i (by rw [enumerate_length]; exact hi)
  rwa [enumerate_length] at this

theorem modePerm_of_ge (sites : List Site) (i : Nat) (hi : indexSize sites ≤ i) :
    modePerm sites i = i :=
  tableMap_of_ge i (by rw [enumerate_length]; exact hi)

theorem modePerm_getIndex (sites : List Site) (hd : (sites.map (·.label)).Nodup) (x : IndexInfo) :
    modePerm sites (getIndex (enumerate sites false) x) = getIndex (enumerate sites true) x :=
  tableMap_getIndex (enumerate_nodup sites hd false) (modes_perm_map_id sites hd) x
    (by rw [enumerate_mem, id, enumerate_mem])

/-- **Switching the ordering mode renumbers the operators and changes nothing else** (for every CAR
representation; C18 `mode_switch_is_renumbering`). -/
theorem indexHamiltonian_mode_switch (sites : List Site) (hd : (sites.map (·.label)).Nodup)
    (L : Lat.Lattice K) (r : CARRep K A) (hc : ∀ i, r.c i * r.c i = 0)
    (hcd : ∀ i, r.cd i * r.cd i = 0) :
    ∃ H0 H1 : Poly K, indexHamiltonian L (enumerate sites false) = some H0 ∧
      indexHamiltonian L (enumerate sites true) = some H1 ∧
      (r.reindex (modePerm sites) (modePerm_injective sites hd)).poly H0 = r.poly H1 := by
  refine indexHamiltonian_reindex r _ _ _ _ L L id rfl (fun n => (List.map_id _).symm)
    (fun _ _ _ => rfl) (fun n t _ => ?_) hc hcd
  simp only [termFactors, id, List.map_map]
  refine List.map_congr_left fun i _ => ?_
  simp only [Function.comp, modePerm_getIndex sites hd]

end ModeSwitch

section Relabel

def renameSite (ρ : String → String) (s : Site) : Site := { s with label := ρ s.label }

def renameInfo (ρ : String → String) (x : IndexInfo) : IndexInfo := { x with label := ρ x.label }

def relabelTerm {K : Type} (ρ : String → String) (t : Term K) : Term K :=
  { t with labels := t.labels.map ρ }

/-- rebuild a `std::map<std::string, Site*>` from a list of sites: insert them one after the other
(`insertSite` of `Model/Lattice.lean` keeps the list sorted by label) -/
def sortSites (l : List Site) : List Site := l.foldl (fun acc s => insertSite s acc) []

/-- **The relabelled lattice**: every site label and every label inside every term is renamed by
`ρ`; the sites are re-inserted into the (label-sorted) site map, so their ORDER may change. -/
def relabel {K : Type} (ρ : String → String) (L : Lat.Lattice K) : Lat.Lattice K where
  sites := sortSites (L.sites.map (renameSite ρ))
  terms := L.terms.map fun p => (p.1, p.2.map (relabelTerm ρ))
  maxOrder := L.maxOrder

def labelsOf {K : Type} (L : Lat.Lattice K) : List String :=
  L.sites.map (·.label) ++ L.terms.flatMap fun p => p.2.flatMap (·.labels)

/-- every stored term names a label for each of its operators (true for every term the presets
build; a term with fewer labels than operators reads the default label `""`) -/
def LabelsComplete {K : Type} (L : Lat.Lattice K) : Prop :=
  ∀ p ∈ L.terms, ∀ t ∈ p.2, t.ops.length ≤ t.labels.length

theorem insertSite_perm (s : Site) (l : List Site) (h : s.label ∉ l.map (·.label)) :
    (insertSite s l).Perm (s :: l) := by
  induction l with
  | nil => exact List.Perm.refl _
  | cons t rest ih =>
    simp only [List.map_cons, List.mem_cons, not_or] at h
    unfold insertSite
    rw [if_neg h.1]
    split
    · exact List.Perm.refl _
    · exact ((ih h.2).cons t).trans (List.Perm.swap s t rest)

theorem foldl_insertSite_perm (l acc : List Site) (h : ((acc ++ l).map (·.label)).Nodup) :
    (l.foldl (fun acc s => insertSite s acc) acc).Perm (acc ++ l) := by
  induction l generalizing acc with
  | nil => simp
  | cons s rest ih =>
    rw [List.foldl_cons]
    have hs : s.label ∉ acc.map (·.label) := by
      rw [List.map_append, List.map_cons] at h
      intro hmem
      exact (List.nodup_append.mp h).2.2 _ hmem _ List.mem_cons_self rfl
    have hp : (insertSite s acc).Perm (acc ++ [s]) :=
      (insertSite_perm s acc hs).trans (List.perm_append_singleton s acc).symm
    have hp2 : (insertSite s acc ++ rest).Perm (acc ++ s :: rest) := by
      have := hp.append_right rest
      simpa using this
    refine (ih (insertSite s acc) ?_).trans hp2
    exact ((hp2.map (·.label)).nodup_iff).mpr h

theorem sortSites_perm (l : List Site) (h : (l.map (·.label)).Nodup) : (sortSites l).Perm l := by
  have := foldl_insertSite_perm l [] (by simpa using h)
  simpa [sortSites] using this

/-- the rebuilt site map is sorted by label with distinct keys: it is a legitimate state of the
`std::map`, iterated in exactly this order by `IndexClassification::prepare` -/
theorem sortSites_sorted (l : List Site) : ((sortSites l).map (·.label)).Pairwise (· < ·) :=
  List.foldlRecOn (motive := fun acc => (acc.map (·.label)).Pairwise (· < ·)) l _ List.Pairwise.nil
    fun acc h s _ => LatticeProps.insertSite_sorted s acc h

theorem sortSites_nodup (l : List Site) : ((sortSites l).map (·.label)).Nodup :=
  (sortSites_sorted l).nodup

theorem relabel_sites_sorted {K : Type} (ρ : String → String) (L : Lat.Lattice K) :
    ((relabel ρ L).sites.map (·.label)).Pairwise (· < ·) :=
  sortSites_sorted _

variable (ρ : String → String)

theorem renameSite_labels (sites : List Site) :
    (sites.map (renameSite ρ)).map (·.label) = (sites.map (·.label)).map ρ := by
  simp [List.map_map, Function.comp_def, renameSite]

theorem valid_label_mem {sites : List Site} {x : IndexInfo} (hx : Valid sites x) :
    x.label ∈ sites.map (·.label) := by
  obtain ⟨s, hs, hl, _, _⟩ := hx
  exact List.mem_map.mpr ⟨s, hs, hl⟩

theorem renameInfo_inj {x y : IndexInfo} (h : renameInfo ρ x = renameInfo ρ y)
    (hl : ρ x.label = ρ y.label → x.label = y.label) : x = y := by
  cases x; cases y
  simp only [renameInfo, IndexInfo.mk.injEq] at h ⊢
  exact ⟨hl h.1, h.2.1, h.2.2⟩

section RenamedSites
variable (sites : List Site) (hd : (sites.map (·.label)).Nodup)
  (hρ : ∀ a ∈ sites.map (·.label), ∀ b ∈ sites.map (·.label), ρ a = ρ b → a = b)
include hd hρ

theorem renamed_labels_nodup :
    ((sites.map (renameSite ρ)).map (·.label)).Nodup := by
  rw [renameSite_labels]
  exact List.Nodup.map_on (fun a ha b hb h => hρ a ha b hb h) hd

theorem sorted_renamed_perm :
    (sortSites (sites.map (renameSite ρ))).Perm (sites.map (renameSite ρ)) :=
  sortSites_perm _ (renamed_labels_nodup ρ sites hd hρ)

theorem valid_renamed_iff (y : IndexInfo) :
    Valid (sortSites (sites.map (renameSite ρ))) y ↔ ∃ x, Valid sites x ∧ renameInfo ρ x = y := by
  unfold Valid
  constructor
  · rintro ⟨s', hs', hl, ho, hz⟩
    have hs'' := (sorted_renamed_perm ρ sites hd hρ).mem_iff.mp hs'
    obtain ⟨s, hs, rfl⟩ := List.mem_map.mp hs''
    refine ⟨⟨s.label, y.orb, y.spin⟩, ⟨s, hs, rfl, ho, hz⟩, ?_⟩
    cases y
    simp only [renameInfo, renameSite] at hl ⊢
    rw [hl]
  · rintro ⟨x, ⟨s, hs, hl, ho, hz⟩, rfl⟩
    refine ⟨renameSite ρ s, (sorted_renamed_perm ρ sites hd hρ).mem_iff.mpr
      (List.mem_map.mpr ⟨s, hs, rfl⟩), ?_, ho, hz⟩
    simp only [renameSite, renameInfo, hl]

theorem enumerate_renamed_perm (mode : Bool) :
    (enumerate (sortSites (sites.map (renameSite ρ))) mode).Perm
      ((enumerate sites mode).map (renameInfo ρ)) := by
  have hd' := sortSites_nodup (sites.map (renameSite ρ))
  have hnm : ((enumerate sites mode).map (renameInfo ρ)).Nodup := by
    refine List.Nodup.map_on ?_ (enumerate_nodup sites hd mode)
    intro a ha b hb hab
    have hla := valid_label_mem ((enumerate_mem sites mode a).mp ha)
    have hlb := valid_label_mem ((enumerate_mem sites mode b).mp hb)
    exact renameInfo_inj ρ hab (hρ _ hla _ hlb)
  rw [List.perm_ext_iff_of_nodup (enumerate_nodup _ hd' mode) hnm]
  intro y
  rw [enumerate_mem, valid_renamed_iff ρ sites hd hρ, List.mem_map]
  constructor
  · rintro ⟨x, hx, rfl⟩; exact ⟨x, (enumerate_mem sites mode x).mpr hx, rfl⟩
  · rintro ⟨x, hx, rfl⟩; exact ⟨x, (enumerate_mem sites mode x).mp hx, rfl⟩

end RenamedSites

/-- the renumbering induced by renaming the site labels: the index of a triple in the table of
the original lattice is sent to the index of the renamed triple in the table of the renamed lattice
(whose sites are sorted by their NEW labels); indices `≥ IndexSize` are left alone -/
def relabelPerm (sites : List Site) (mode : Bool) : Nat → Nat :=
  tableMap (enumerate sites mode) (enumerate (sortSites (sites.map (renameSite ρ))) mode)
    (renameInfo ρ)

theorem relabelPerm_injective (sites : List Site) (hd : (sites.map (·.label)).Nodup)
    (hρ : ∀ a ∈ sites.map (·.label), ∀ b ∈ sites.map (·.label), ρ a = ρ b → a = b)
    (mode : Bool) : Function.Injective (relabelPerm ρ sites mode) :=
  tableMap_injective (enumerate_nodup _ (sortSites_nodup _) mode)
    (enumerate_renamed_perm ρ sites hd hρ mode)

theorem relabelPerm_bijective (sites : List Site) (hd : (sites.map (·.label)).Nodup)
    (hρ : ∀ a ∈ sites.map (·.label), ∀ b ∈ sites.map (·.label), ρ a = ρ b → a = b)
    (mode : Bool) : Function.Bijective (relabelPerm ρ sites mode) :=
  tableMap_bijective (enumerate_nodup _ (sortSites_nodup _) mode)
    (enumerate_renamed_perm ρ sites hd hρ mode)

theorem relabelPerm_getIndex (sites : List Site) (hd : (sites.map (·.label)).Nodup)
    (S : List String) (hS : ∀ a ∈ sites.map (·.label), a ∈ S)
    (hρ : ∀ a ∈ S, ∀ b ∈ S, ρ a = ρ b → a = b) (mode : Bool) (x : IndexInfo)
    (hx : x.label ∈ S) :
    relabelPerm ρ sites mode (getIndex (enumerate sites mode) x) =
      getIndex (enumerate (sortSites (sites.map (renameSite ρ))) mode) (renameInfo ρ x) := by
  have hρ' : ∀ a ∈ sites.map (·.label), ∀ b ∈ sites.map (·.label), ρ a = ρ b → a = b :=
    fun a ha b hb h => hρ a (hS a ha) b (hS b hb) h
  refine tableMap_getIndex (enumerate_nodup sites hd mode)
    (enumerate_renamed_perm ρ sites hd hρ' mode) x ?_
  rw [enumerate_mem, enumerate_mem,
    valid_renamed_iff ρ sites hd hρ']
  constructor
  · intro h; exact ⟨x, h, rfl⟩
  · rintro ⟨y, hy, hxy⟩
    have hly := hS _ (valid_label_mem hy)
    have : y = x := renameInfo_inj ρ hxy (hρ _ hly _ hx)
    rwa [← this]

section Terms
variable {K : Type}

theorem getTerms_relabel (L : Lat.Lattice K) (n : Nat) :
    getTerms (relabel ρ L) n = (getTerms L n).map (relabelTerm ρ) := by
  simp only [getTerms, relabel, List.find?_map, Function.comp_def]
  cases L.terms.find? fun x => decide (x.1 = n) <;> rfl

theorem getTerms_subset (L : Lat.Lattice K) (n : Nat) (t : Term K) (ht : t ∈ getTerms L n) :
    ∃ p ∈ L.terms, t ∈ p.2 := by
  unfold getTerms at ht
  split at ht
  · rename_i m l hfind
    exact ⟨(m, l), List.mem_of_find?_eq_some hfind, ht⟩
  · cases ht

end Terms
end Relabel

section RelabelHam
open scoped Pomerol.Spec.Exact
variable {K A : Type} [CommRing K] [DecidableEq K] [Ring A] [Algebra K A]

/-- **Renaming the sites renumbers the operators and changes nothing else** (C18
`renaming_sites_is_renumbering`): `ρ` injective on the labels that occur in `L`, every stored term
naming a label for each of its operators; each Hamiltonian is built with the table of its own lattice. -/
theorem indexHamiltonian_relabel (ρ : String → String) (L : Lat.Lattice K)
    (hd : (L.sites.map (·.label)).Nodup) (hwf : LabelsComplete L)
    (hρ : ∀ a ∈ labelsOf L, ∀ b ∈ labelsOf L, ρ a = ρ b → a = b)
    (mode : Bool) (r : CARRep K A) (hc : ∀ i, r.c i * r.c i = 0)
    (hcd : ∀ i, r.cd i * r.cd i = 0) :
    ∃ H H' : Poly K, indexHamiltonian L (enumerate L.sites mode) = some H ∧
      indexHamiltonian (relabel ρ L) (enumerate (relabel ρ L).sites mode) = some H' ∧
      (r.reindex (relabelPerm ρ L.sites mode)
        (relabelPerm_injective ρ L.sites hd
          (fun a ha b hb => hρ a (List.mem_append_left _ ha) b (List.mem_append_left _ hb))
          mode)).poly H = r.poly H' := by
  refine indexHamiltonian_reindex r _ _ _ _ L (relabel ρ L) (relabelTerm ρ) rfl
    (getTerms_relabel ρ L) (fun _ _ _ => rfl) (fun n t ht => ?_) hc hcd
  obtain ⟨p, hp, htp⟩ := getTerms_subset L n t ht
  have hlen := hwf p hp t htp
  simp only [termFactors, List.map_map]
  refine List.map_congr_left fun i hi => ?_
  have hi' : i < t.ops.length := by simpa [relabelTerm, Term.order] using List.mem_range.mp hi
  have hil : i < t.labels.length := Nat.lt_of_lt_of_le hi' hlen
  have hlab : t.labels.getD i "" ∈ labelsOf L := by
    rw [getD_eq_getElem _ _ hil]
    refine List.mem_append_right _ (List.mem_flatMap.mpr ⟨p, hp, List.mem_flatMap.mpr ⟨t, htp, ?_⟩⟩)
    exact List.getElem_mem hil
  have hget : (relabelTerm ρ t).labels.getD i "" = ρ (t.labels.getD i "") := by
    simp only [relabelTerm]
    rw [getD_eq_getElem _ _ (by rw [List.length_map]; exact hil),
      getD_eq_getElem _ _ hil, List.getElem_map]
  simp only [Function.comp]
  rw [relabelPerm_getIndex ρ L.sites hd (labelsOf L) (fun a ha => List.mem_append_left _ ha) hρ
    mode _ hlab, hget]
  rfl

end RelabelHam

section Observables
variable {K A : Type} [CommRing K] [Ring A] [Algebra K A]

/-- **Every observable follows the renumbering.**  With `hH` (what `indexHamiltonian_mode_switch` and
`indexHamiltonian_relabel` provide) every polynomial of setting 1 is the index-renamed polynomial of
setting 2, and any function `F` whatever of the Hamiltonian OPERATOR and of the two families of field
operators has in setting 1 the value it has in setting 2 for the families renumbered by `π`. -/
theorem observables_follow (r : CARRep K A) (π : Nat → Nat) (hπ : Function.Injective π)
    (H H' : Poly K) (hH : (r.reindex π hπ).poly H = r.poly H') :
    (∀ P : Poly K, (r.reindex π hπ).poly P = r.poly (mapIdx π P)) ∧
    (∀ (X : Type) (F : A → (Nat → A) → (Nat → A) → X),
      F ((r.reindex π hπ).poly H) (r.reindex π hπ).c (r.reindex π hπ).cd =
        F (r.poly H') (fun i => r.c (π i)) (fun i => r.cd (π i))) := by
  refine ⟨reindex_poly r π hπ, fun X F => ?_⟩
  rw [hH]
  rfl

/-- In particular, for every polynomial `P`: the product `P · Hⁿ · Q` of setting 1 (the building
block of every moment / correlation function) is the product of the renamed polynomials and of the
Hamiltonian of setting 2. -/
theorem moments_follow (r : CARRep K A) (π : Nat → Nat) (hπ : Function.Injective π)
    (H H' : Poly K) (hH : (r.reindex π hπ).poly H = r.poly H') (P Q : Poly K) (n : Nat) :
    (r.reindex π hπ).poly P * (r.reindex π hπ).poly H ^ n * (r.reindex π hπ).poly Q =
      r.poly (mapIdx π P) * r.poly H' ^ n * r.poly (mapIdx π Q) := by
  rw [hH, reindex_poly, reindex_poly]

/-! ### from "same operator with renumbered generators" to "similar matrices"

The library computes with ONE fixed representation (the Jordan-Wigner matrices `jwRep`) in both
settings; the renumbered family `c_{π i}` is another CAR representation on the same Fock space.
Whenever an invertible `u` intertwines the two (`u c_i u⁻¹ = c_{π i}`, `u c†_i u⁻¹ = c†_{π i}`),
reading in the renumbered representation is conjugation by `u`, so the two Hamiltonian matrices are
similar: same spectrum, eigenvectors mapped by `u`.  Such a `u` exists for every permutation of
finitely many modes in every CAR representation with `c_i² = c†_i² = 0` (`exists_intertwiner`
below: a product of fermionic swaps `1 − (c†_a − c†_b)(c_a − c_b)`). -/

theorem reindex_poly_of_intertwiner (r : CARRep K A) (π : Nat → Nat) (hπ : Function.Injective π)
    (u : Aˣ) (hu : ∀ i, (u : A) * r.c i * (↑u⁻¹ : A) = r.c (π i))
    (hud : ∀ i, (u : A) * r.cd i * (↑u⁻¹ : A) = r.cd (π i)) (p : Poly K) :
    (r.reindex π hπ).poly p = (u : A) * r.poly p * (↑u⁻¹ : A) := by
  have hop : ∀ o : Op, (r.reindex π hπ).op o = (u : A) * r.op o * (↑u⁻¹ : A) := by
    intro o
    obtain ⟨a, i⟩ := o
    cases a
    · exact (hud i).symm
    · exact (hu i).symm
  have hmono : ∀ m : Mono, (r.reindex π hπ).mono m = (u : A) * r.mono m * (↑u⁻¹ : A) := by
    intro m
    induction m with
    | nil => simp
    | cons a m ih =>
      rw [mono_cons, mono_cons, ih, hop]
      -- the inner `u⁻¹ u` cancels
      simp only [mul_assoc, Units.inv_mul_cancel_left]
  induction p with
  | nil => simp
  | cons mc p ih =>
    obtain ⟨m, c⟩ := mc
    rw [poly_cons, poly_cons, ih, hmono, mul_add, add_mul, mul_smul_comm, smul_mul_assoc]

end Observables

section
variable {A : Type} [Ring A]

theorem swap_sq_aux (d dd : A) (hd : d * d = 0) (h2 : d * dd + dd * d = 2) :
    d * (dd * d) = 2 * d ∧ dd * d * (dd * d) = 2 * (dd * d) := by
  have k1 : d * (dd * d) = 2 * d := by
    rw [← mul_assoc, eq_sub_of_add_eq h2, sub_mul, mul_assoc dd, hd, mul_zero, sub_zero]
  exact ⟨k1, by rw [mul_assoc, k1, two_mul, mul_add, ← two_mul]⟩

theorem swap_conj_aux (d dd x e : A) (hd : d * d = 0) (h2 : d * dd + dd * d = 2)
    (hx : x * dd + dd * x = e) (hxd : x * d + d * x = 0) :
    (1 - dd * d) * x * (1 - dd * d) = x - e * d := by
  obtain ⟨k1, k3⟩ := swap_sq_aux d dd hd h2
  have k2 : dd * d * x = x * (dd * d) - e * d := by
    rw [mul_assoc, eq_neg_of_add_eq_zero_right hxd, mul_neg, ← mul_assoc, eq_sub_of_add_eq' hx,
      sub_mul, neg_sub, mul_assoc]
  rw [sub_mul, one_mul, k2, mul_sub, mul_one, sub_mul, sub_mul, mul_assoc x, k3, mul_assoc e, k1,
    two_mul, two_mul, mul_add, mul_add]
  abel

theorem swap_unit_sq (d dd : A) (hd : d * d = 0) (h2 : d * dd + dd * d = 2) :
    (1 - dd * d) * (1 - dd * d) = 1 := by
  rw [mul_sub, mul_one, sub_mul, one_mul, (swap_sq_aux d dd hd h2).2, two_mul]
  abel

theorem conj_mul (s u : Aˣ) {x y z : A} (hu : (u : A) * x * ↑u⁻¹ = y) (hs : (s : A) * y * ↑s⁻¹ = z) :
    (↑(s * u) : A) * x * ↑(s * u)⁻¹ = z := by
  rw [mul_inv_rev, Units.val_mul, Units.val_mul, ← hs, ← hu]
  simp only [mul_assoc]

theorem anti_sub (x a b : A) : x * (a - b) + (a - b) * x = (x * a + a * x) - (x * b + b * x) := by
  rw [mul_sub, sub_mul]; abel

theorem sub_mul_self_eq_zero (x y : A) (hx : x * x = 0) (hy : y * y = 0) (hxy : x * y + y * x = 0) :
    (x - y) * (x - y) = 0 := by
  rw [mul_sub, sub_mul, sub_mul, hx, hy, eq_neg_of_add_eq_zero_left hxy]; abel

theorem one_sub_comm_of_two (d dd : A) (h2 : d * dd + dd * d = 2) : 1 - dd * d = -(1 - d * dd) := by
  have e1 : d * dd = 2 - dd * d := eq_sub_of_add_eq h2
  rw [e1, show (2 : A) = 1 + 1 from one_add_one_eq_two.symm]; abel

/-- Two families `f`, `g` with the relations of `c`, `c†` (or of `c†`, `c`): with `d = f_a - f_b`,
`d' = g_a - g_b` the element `1 - d' d` is an involution that exchanges `f_a` and `f_b` and fixes the
other `f_k`. -/
theorem swap_conj_family (f g : Nat → A) (hf2 : ∀ i, f i * f i = 0)
    (hff : ∀ i j, f i * f j + f j * f i = 0)
    (hfg : ∀ i j, f i * g j + g j * f i = if i = j then 1 else 0) {a b : Nat} (hab : a ≠ b) :
    (f a - f b) * (g a - g b) + (g a - g b) * (f a - f b) = 2 ∧
    (1 - (g a - g b) * (f a - f b)) * (1 - (g a - g b) * (f a - f b)) = 1 ∧
    ∀ k, (1 - (g a - g b) * (f a - f b)) * f k * (1 - (g a - g b) * (f a - f b)) =
      f (Equiv.swap a b k) := by
  have hd : (f a - f b) * (f a - f b) = 0 := sub_mul_self_eq_zero _ _ (hf2 a) (hf2 b) (hff a b)
  have f_dd : ∀ k, f k * (g a - g b) + (g a - g b) * f k =
      (if k = a then 1 else 0) - (if k = b then 1 else 0) := fun k => by rw [anti_sub, hfg, hfg]
  have f_d : ∀ k, f k * (f a - f b) + (f a - f b) * f k = 0 := fun k => by
    rw [anti_sub, hff, hff, sub_zero]
  have h2 : (f a - f b) * (g a - g b) + (g a - g b) * (f a - f b) = 2 := by
    rw [sub_mul, mul_sub (g a - g b), sub_add_sub_comm, f_dd a, f_dd b, if_pos rfl, if_pos rfl,
      if_neg hab, if_neg hab.symm]
    norm_num
  refine ⟨h2, swap_unit_sq _ _ hd h2, fun k => ?_⟩
  rw [swap_conj_aux _ _ (f k) _ hd h2 (f_dd k) (f_d k)]
  rcases eq_or_ne k a with rfl | hka
  · rw [if_pos rfl, if_neg hab, Equiv.swap_apply_left, sub_zero, one_mul, sub_sub_cancel]
  rcases eq_or_ne k b with rfl | hkb
  · rw [if_neg hka, if_pos rfl, Equiv.swap_apply_right, zero_sub, neg_one_mul, sub_neg_eq_add,
      add_sub_cancel]
  · rw [if_neg hka, if_neg hkb, Equiv.swap_apply_of_ne_of_ne hka hkb, sub_zero, zero_mul, sub_zero]

end

section
variable {K A : Type} [CommRing K] [Ring A] [Algebra K A]

theorem swap_intertwiner (r : CARRep K A) (hc : ∀ i, r.c i * r.c i = 0)
    (hcd : ∀ i, r.cd i * r.cd i = 0) (a b : Nat) :
    ∃ u : Aˣ, (∀ i, (u : A) * r.c i * (↑u⁻¹ : A) = r.c (Equiv.swap a b i)) ∧
      (∀ i, (u : A) * r.cd i * (↑u⁻¹ : A) = r.cd (Equiv.swap a b i)) := by
  by_cases hab : a = b
  · subst hab
    exact ⟨1, fun i => by simp, fun i => by simp⟩
  -- `u = 1 - d† d` with `d = c_a - c_b`; for the `c†_k` it is `-(1 - d d†)`
  obtain ⟨h2, hsq, hu⟩ := swap_conj_family r.c r.cd hc r.cc r.ccd hab
  obtain ⟨-, -, hud⟩ := swap_conj_family r.cd r.c hcd r.cdcd
    (fun i j => by rw [add_comm, r.ccd, if_congr eq_comm rfl rfl]) hab
  refine ⟨⟨_, _, hsq, hsq⟩, hu, fun k => ?_⟩
  show (1 - _ * _) * r.cd k * (1 - _ * _) = _
  rw [one_sub_comm_of_two _ _ h2, neg_mul, mul_neg, neg_mul, neg_neg]
  exact hud k

theorem exists_intertwiner (r : CARRep K A) (hc : ∀ i, r.c i * r.c i = 0)
    (hcd : ∀ i, r.cd i * r.cd i = 0) :
    ∀ (N : Nat) (π : Nat → Nat), Function.Injective π → (∀ i, N ≤ i → π i = i) →
      ∃ u : Aˣ, (∀ i, (u : A) * r.c i * (↑u⁻¹ : A) = r.c (π i)) ∧
        (∀ i, (u : A) * r.cd i * (↑u⁻¹ : A) = r.cd (π i))
  | 0, π, _, hfix => by
    refine ⟨1, fun i => ?_, fun i => ?_⟩ <;> simp [hfix i (Nat.zero_le i)]
  | N + 1, π, hinj, hfix => by
    let σ : Equiv.Perm Nat := Equiv.swap N (π N)
    have hinj' : Function.Injective (fun i => σ (π i)) := σ.injective.comp hinj
    have hfix' : ∀ i, N ≤ i → σ (π i) = i := by
      intro i hi
      rcases Nat.eq_or_lt_of_le hi with h | h
      · subst h; exact Equiv.swap_apply_right _ _
      · have h1 : π i = i := hfix i h
        rw [h1]
        refine Equiv.swap_apply_of_ne_of_ne (Nat.ne_of_gt h) ?_
        intro h2
        have : π i = π N := by rw [h1]; exact h2
        exact Nat.ne_of_gt h (hinj this)
    obtain ⟨u', hu', hud'⟩ := exists_intertwiner r hc hcd N (fun i => σ (π i)) hinj' hfix'
    obtain ⟨s, hs, hsd⟩ := swap_intertwiner r hc hcd N (π N)
    have hσσ : ∀ i, σ (σ (π i)) = π i := fun i => Equiv.swap_apply_self _ _ _
    exact ⟨s * u', fun i => conj_mul s u' (hu' i) ((hs _).trans (congrArg r.c (hσσ i))),
      fun i => conj_mul s u' (hud' i) ((hsd _).trans (congrArg r.cd (hσσ i)))⟩

/-- **The two Hamiltonians are similar**: in ONE CAR representation (e.g. the Jordan-Wigner matrices) a
renumbering `π` that moves finitely many indices is implemented by an invertible `u`, and `u H u⁻¹ = H'`
(`hH`: the conclusion of `indexHamiltonian_mode_switch` / `indexHamiltonian_relabel`; `o`, `o'`: the two
results of `indexHamiltonian`). -/
theorem similar_of_renumbering (r : CARRep K A) (hc : ∀ i, r.c i * r.c i = 0)
    (hcd : ∀ i, r.cd i * r.cd i = 0) {π : Nat → Nat} (hπ : Function.Injective π) (N : Nat)
    (hfix : ∀ i, N ≤ i → π i = i) {o o' : Option (Poly K)}
    (hH : ∃ H H' : Poly K, o = some H ∧ o' = some H' ∧ (r.reindex π hπ).poly H = r.poly H') :
    ∃ (u : Aˣ) (H H' : Poly K), o = some H ∧ o' = some H' ∧
      (∀ i, (u : A) * r.c i * (↑u⁻¹ : A) = r.c (π i)) ∧
      (∀ i, (u : A) * r.cd i * (↑u⁻¹ : A) = r.cd (π i)) ∧
      (u : A) * r.poly H * (↑u⁻¹ : A) = r.poly H' := by
  obtain ⟨H, H', h0, h1, hH⟩ := hH
  obtain ⟨u, hu, hud⟩ := exists_intertwiner r hc hcd N π hπ hfix
  exact ⟨u, H, H', h0, h1, hu, hud, by rw [← reindex_poly_of_intertwiner r π hπ u hu hud H, hH]⟩

end


section Examples
open scoped Pomerol.Spec.Exact

theorem injective_on_labels {K : Type} (ρ : String → String) (hinj : Function.Injective ρ)
    (L : Lat.Lattice K) : ∀ a ∈ labelsOf L, ∀ b ∈ labelsOf L, ρ a = ρ b → a = b :=
  fun _ _ _ _ h => hinj h

/-- every term the presets build names a label for each of its operators, so lattices filled
through the presets satisfy `LabelsComplete` -/
theorem preset_terms_labels_complete {K : Type} (l1 l2 : String) (v : K) (o1 o2 s1 s2 : Nat) :
    (tHopping l1 l2 v o1 o2 s1 s2).ops.length ≤ (tHopping l1 l2 v o1 o2 s1 s2).labels.length ∧
    (tLevel l1 v o1 s1).ops.length ≤ (tLevel l1 v o1 s1).labels.length ∧
    (tNupNdown l1 l2 v o1 o2 s1 s2).ops.length ≤ (tNupNdown l1 l2 v o1 o2 s1 s2).labels.length ∧
    (tSplusSminus l1 l2 v o1).ops.length ≤ (tSplusSminus l1 l2 v o1).labels.length ∧
    (tSminusSplus l1 l2 v o1).ops.length ≤ (tSminusSplus l1 l2 v o1).labels.length ∧
    (∀ t, tSpinflip l1 v o1 o2 s1 s2 = .ok t → t.ops.length ≤ t.labels.length) ∧
    (∀ t, tPairHopping l1 v o1 o2 s1 s2 = .ok t → t.ops.length ≤ t.labels.length) := by
  refine ⟨Nat.le_refl 2, Nat.le_refl 2, ?_, Nat.le_refl 4, Nat.le_refl 4, ?_, ?_⟩
  · unfold tNupNdown
    split
    · exact Nat.le_refl 2
    · exact Nat.le_refl 4
  · intro t h
    unfold tSpinflip at h
    split at h
    · cases h
    · cases h; exact Nat.le_refl 4
  · intro t h
    unfold tPairHopping at h
    split at h
    · cases h
    · cases h; exact Nat.le_refl 4

/-- example lattice: site "A" with two spins, site "B" with one spin, a hopping term between
(A, spin 1) and (B, spin 0) with its Hermitian conjugate, and a density-density term -/
def exSites : List Site := [⟨"A", 1, 2⟩, ⟨"B", 1, 1⟩]

def exLattice : Lat.Lattice Int :=
  ⟨exSites, [(2, [tHopping "A" "B" 3 0 0 1 0, tHopping "B" "A" 3 0 0 0 1]),
             (4, [tNupNdown "A" "B" 5 0 0 1 0])], 4⟩

/-- renaming "A" to "Z" moves that site behind "B" in the site map -/
def exRename : String → String := fun s => if s = "A" then "Z" else s

/-- the hypotheses of `indexHamiltonian_mode_switch` are satisfiable: the Jordan-Wigner matrices
the library computes with form a CAR representation with `c_i² = c†_i² = 0` -/
example : ∃ H0 H1 : Poly Int, indexHamiltonian exLattice (enumerate exSites false) = some H0 ∧
    indexHamiltonian exLattice (enumerate exSites true) = some H1 ∧
    ((jwRep Int).reindex (modePerm exSites) (modePerm_injective exSites (by decide))).poly H0 =
      (jwRep Int).poly H1 :=
  indexHamiltonian_mode_switch exSites (by decide) exLattice (jwRep Int) (jw_sq_c Int) (jw_sq_cd Int)

/-- the hypotheses of `indexHamiltonian_relabel` are satisfiable, with a renaming that changes the
order of the sites -/
example : (relabel exRename exLattice).sites = [⟨"B", 1, 1⟩, ⟨"Z", 1, 2⟩] ∧
    (exLattice.sites.map (·.label)).Nodup ∧ LabelsComplete exLattice ∧
    (∀ a ∈ labelsOf exLattice, ∀ b ∈ labelsOf exLattice, exRename a = exRename b → a = b) := by
  unfold LabelsComplete
  decide

/-- the induced renumberings in the example: the mode switch exchanges the indices 1 and 2, the
renaming rotates 0 → 1 → 2 → 0; indices outside the table are fixed -/
theorem example_renumberings :
    (List.range 5).map (modePerm exSites) = [0, 2, 1, 3, 4] ∧
    (List.range 5).map (relabelPerm exRename exSites false) = [1, 2, 0, 3, 4] := by
  decide

/-- a lattice with the single term `7 c†_(A,1) c†_(B,0) c_(A,0) c_(A,1)` -/
def exPair : Lat.Lattice Int :=
  ⟨exSites, [(4, [⟨[true, true, false, false], ["A", "B", "A", "A"], [0, 0, 0, 0], [1, 0, 0, 1], 7⟩])], 4⟩

/-- **Why the invariance is stated for operators.**  For `exPair` the site-major Hamiltonian is
`+7 c†₁c†₂c₀c₁` and the spin-major one is `−7 c†₁c†₂c₀c₂`: renaming the indices of the first
(1 ↔ 2) gives `+7 c†₂c†₁c₀c₂`, which is the same operator but is not the stored polynomial -- the
library keeps products normal-ordered, and bringing `c†₂c†₁` into normal order costs a sign.  So at
the level of stored polynomials a mode switch is NOT a pure renaming of indices (coefficients
change sign); at the level of operators it is (`indexHamiltonian_mode_switch`). -/
theorem mapIdx_not_normal_ordered :
    indexHamiltonian exPair (enumerate exSites false) =
      some [([⟨false, 1⟩, ⟨false, 2⟩, ⟨true, 0⟩, ⟨true, 1⟩], 7)] ∧
    indexHamiltonian exPair (enumerate exSites true) =
      some [([⟨false, 1⟩, ⟨false, 2⟩, ⟨true, 0⟩, ⟨true, 2⟩], -7)] ∧
    (indexHamiltonian exPair (enumerate exSites false)).map (mapIdx (modePerm exSites)) =
      some [([⟨false, 2⟩, ⟨false, 1⟩, ⟨true, 0⟩, ⟨true, 2⟩], 7)] := by
  decide

end Examples

end Pomerol.Spec.IndexInvariance
