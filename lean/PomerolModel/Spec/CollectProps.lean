/-
  Properties of the collection phase that follows a dispatch round (`Model/Collect.lean`):
  the per-part broadcasts from `job_map[p]` and the reduction of the rank-local frequency tables,
  and their composition with the dispatcher model (`Model/Dispatcher.lean`, `Spec/DispatcherInv.lean`).

  The table entries live in an arbitrary additive commutative monoid: exact arithmetic.  The
  re-association of a floating-point sum is NOT covered.
-/
import PomerolModel.Model.Collect
import PomerolModel.Spec.DispatcherInv
import Mathlib.Algebra.BigOperators.Group.Finset.Basic
import Mathlib.Algebra.BigOperators.Group.Finset.Piecewise
import Mathlib.Data.List.Perm.Basic

namespace Pomerol.Spec.Collect
open Pomerol.Model.Collect Pomerol.Model.Disp Pomerol.Spec.Disp

section Bcast
variable {α : Type}

def WF (P J : Nat) (w : World α) : Prop := w.length = P ∧ ∀ st ∈ w, st.length = J

theorem entry_of_ge (w : World α) (r p : Nat) (h : w.length ≤ r) : entry w r p = none := by
  simp [entry, List.getD_eq_getElem?_getD, List.getElem?_eq_none h]

theorem initWorld_wf (P J : Nat) (ran : Nat → Nat → Bool) (result : Nat → α) (stale : Nat → Nat → Option α) :
    WF P J (initWorld P J ran result stale) := by
  refine ⟨by simp [initWorld], ?_⟩
  intro st hst
  simp only [initWorld, List.mem_map] at hst
  obtain ⟨r, _, rfl⟩ := hst
  simp

theorem entry_initWorld (P J : Nat) (ran : Nat → Nat → Bool) (result : Nat → α) (stale : Nat → Nat → Option α)
    (r p : Nat) (hr : r < P) (hp : p < J) :
    entry (initWorld P J ran result stale) r p = if ran r p then some (result p) else stale r p := by
  simp [entry, initWorld, List.getD_eq_getElem?_getD, hr, hp]

theorem bcastStep_wf (P J : Nat) (owner : Nat → Nat) (w : World α) (p : Nat) (h : WF P J w) :
    WF P J (bcastStep owner w p) := by
  refine ⟨by simp [bcastStep, h.1], ?_⟩
  intro st hst
  simp only [bcastStep, List.mem_map] at hst
  obtain ⟨st0, h0, rfl⟩ := hst
  simp [h.2 st0 h0]

theorem entry_bcastStep (P J : Nat) (owner : Nat → Nat) (w : World α) (p : Nat) (h : WF P J w) (hp : p < J)
    (r q : Nat) :
    entry (bcastStep owner w p) r q = if q = p ∧ r < P then entry w (owner p) p else entry w r q := by
  by_cases hr : r < P
  · have hr' : r < w.length := by rw [h.1]; exact hr
    have hlen : (w[r]).length = J := h.2 _ (List.getElem_mem hr')
    have e1 : entry (bcastStep owner w p) r q = ((w[r]).set p (entry w (owner p) p)).getD q none := by
      rw [entry, bcastStep, getD_eq_getElem _ [] (by rw [List.length_map]; exact hr'), List.getElem_map]
    have e2 : entry w r q = (w[r]).getD q none := by
      rw [entry, getD_eq_getElem w [] hr']
    rw [e1, e2, getD_set, hlen]
    -- both bounds hold (`hp`, `hr`): the two conditions say `p = q`
    have hc : (p = q ∧ p < J) ↔ (q = p ∧ r < P) := ⟨fun c => ⟨c.1.symm, hr⟩, fun c => ⟨c.1.symm, hp⟩⟩
    exact if_congr hc rfl rfl
  · have h1 : (bcastStep owner w p).length ≤ r := (bcastStep_wf P J owner w p h).1.trans_le (not_lt.1 hr)
    have h2 : w.length ≤ r := h.1.trans_le (not_lt.1 hr)
    rw [entry_of_ge _ _ _ h1, entry_of_ge _ _ _ h2]
    simp [hr]

theorem bcast_prefix (P J : Nat) (owner : Nat → Nat) (w : World α) (h : WF P J w) :
    ∀ k, k ≤ J → WF P J ((List.range k).foldl (bcastStep owner) w) ∧
      ∀ r q, r < P → entry ((List.range k).foldl (bcastStep owner) w) r q =
        if q < k then entry w (owner q) q else entry w r q := by
  intro k
  induction k with
  | zero => intro _; exact ⟨h, fun r q _ => by simp⟩
  | succ k ih =>
    intro hk
    obtain ⟨hwf, hent⟩ := ih (Nat.le_of_succ_le hk)
    rw [List.range_succ, List.foldl_append]
    simp only [List.foldl_cons, List.foldl_nil]
    refine ⟨bcastStep_wf P J owner _ k hwf, ?_⟩
    intro r q hr
    rw [entry_bcastStep P J owner _ k hwf hk]
    by_cases hq : q = k
    · subst hq
      simp only [hr, and_self, if_true, Nat.lt_succ_self]
      by_cases ho : owner q < P
      · rw [hent _ _ ho]; simp
      · rw [entry_of_ge _ _ _ (hwf.1.trans_le (not_lt.1 ho)), entry_of_ge _ _ _ (h.1.trans_le (not_lt.1 ho))]
    · rw [if_neg (fun c => hq c.1), hent r q hr]
      simp only [Nat.lt_succ_iff_lt_or_eq, hq, or_false]

theorem entry_bcastAll (P J : Nat) (owner : Nat → Nat) (w : World α) (h : WF P J w) (r p : Nat) (hr : r < P)
    (hp : p < J) : entry (bcastAll J owner w) r p = entry w (owner p) p := by
  have := (bcast_prefix P J owner w h J (Nat.le_refl J)).2 r p hr
  rw [bcastAll, this, if_pos hp]

theorem bcastAll_wf (P J : Nat) (owner : Nat → Nat) (w : World α) (h : WF P J w) : WF P J (bcastAll J owner w) :=
  (bcast_prefix P J owner w h J (Nat.le_refl J)).1

theorem world_ext (P J : Nat) (w w' : World α) (h : WF P J w) (h' : WF P J w')
    (he : ∀ r p, r < P → p < J → entry w r p = entry w' r p) : w = w' := by
  apply List.ext_getElem (by rw [h.1, h'.1])
  intro r h1 h2
  have l1 : (w[r]).length = J := h.2 _ (List.getElem_mem h1)
  have l2 : (w'[r]).length = J := h'.2 _ (List.getElem_mem h2)
  apply List.ext_getElem (by rw [l1, l2])
  intro p hp1 hp2
  have := he r p (by rw [← h.1]; exact h1) (by rw [← l1]; exact hp1)
  simpa [entry, List.getD_eq_getElem?_getD, h1, h2, hp1, hp2] using this

theorem entry_bcastAll_initWorld (P J : Nat) (owner : Nat → Nat) (ran : Nat → Nat → Bool) (result : Nat → α)
    (stale : Nat → Nat → Option α) (r p : Nat) (hr : r < P) (hp : p < J) :
    entry (bcastAll J owner (initWorld P J ran result stale)) r p =
      if owner p < P then (if ran (owner p) p then some (result p) else stale (owner p) p) else none := by
  rw [entry_bcastAll P J owner _ (initWorld_wf P J ran result stale) r p hr hp]
  by_cases ho : owner p < P
  · rw [if_pos ho]; exact entry_initWorld P J ran result stale _ p ho hp
  · rw [if_neg ho]; exact entry_of_ge _ _ _ ((initWorld_wf P J ran result stale).1.trans_le (not_lt.1 ho))

theorem bcast_all_ranks_agree (P J : Nat) (owner : Nat → Nat) (ran : Nat → Nat → Bool) (result : Nat → α)
    (stale : Nat → Nat → Option α) (hown : ∀ p, p < J → owner p < P ∧ ran (owner p) p = true) :
    (∀ r p, r < P → p < J → entry (bcastAll J owner (initWorld P J ran result stale)) r p = some (result p)) ∧
    bcastAll J owner (initWorld P J ran result stale) =
      List.replicate P ((List.range J).map fun p => some (result p)) := by
  have hent : ∀ r p, r < P → p < J →
      entry (bcastAll J owner (initWorld P J ran result stale)) r p = some (result p) := fun r p hr hp => by
    rw [entry_bcastAll_initWorld P J owner ran result stale r p hr hp, if_pos (hown p hp).1, if_pos (hown p hp).2]
  have hwf : WF P J (List.replicate P ((List.range J).map fun p => some (result p))) := by
    refine ⟨by simp, ?_⟩
    intro st hst
    rw [List.eq_of_mem_replicate hst]
    simp
  refine ⟨hent, world_ext P J _ _ (bcastAll_wf P J owner _ (initWorld_wf P J ran result stale)) hwf ?_⟩
  intro r p hr hp
  rw [hent r p hr hp]
  simp [entry, List.getD_eq_getElem?_getD, hr, hp]

theorem bcast_invalid_root_loses_part (P J : Nat) (owner : Nat → Nat) (ran : Nat → Nat → Bool)
    (result : Nat → α) (stale : Nat → Nat → Option α) (p : Nat) (hp : p < J) (hown : P ≤ owner p)
    (r : Nat) (hr : r < P) :
    entry (bcastAll J owner (initWorld P J ran result stale)) r p = none := by
  rw [entry_bcastAll_initWorld P J owner ran result stale r p hr hp, if_neg (not_lt.2 hown)]

end Bcast

section Tables
variable {β : Type} [AddCommMonoid β]

theorem length_accumulate (t c : List β) : (accumulate t c).length = t.length := by
  rw [accumulate, List.length_map, List.length_range]

theorem getD_accumulate (t c : List β) (w : Nat) (hw : w < t.length) :
    (accumulate t c).getD w 0 = t.getD w 0 + c.getD w 0 := by
  rw [accumulate, List.getD_eq_getElem?_getD, List.getElem?_map, List.getElem?_range hw]
  rfl

theorem length_zeroTable (F : Nat) : (zeroTable F : List β).length = F := by simp [zeroTable]

theorem getD_zeroTable (F w : Nat) : (zeroTable F : List β).getD w 0 = 0 := by
  simp only [zeroTable, List.getD_eq_getElem?_getD, List.getElem?_replicate]
  split <;> rfl

theorem foldl_accumulate {ι : Type} (c : ι → List β) (l : List ι) :
    ∀ t : List β, (l.foldl (fun t x => accumulate t (c x)) t).length = t.length ∧
      ∀ w, w < t.length → (l.foldl (fun t x => accumulate t (c x)) t).getD w 0 =
        t.getD w 0 + (l.map fun x => (c x).getD w 0).sum := by
  induction l with
  | nil => exact fun t => ⟨rfl, fun w _ => (add_zero _).symm⟩
  | cons x l ih =>
    intro t
    obtain ⟨h1, h2⟩ := ih (accumulate t (c x))
    rw [length_accumulate] at h1
    refine ⟨h1, ?_⟩
    intro w hw
    rw [List.foldl_cons, h2 w (by rw [length_accumulate]; exact hw), getD_accumulate t _ w hw, List.map_cons,
      List.sum_cons, add_assoc]

theorem table_ext (F : Nat) (a b : List β) (ha : a.length = F) (hb : b.length = F)
    (h : ∀ w, w < F → a.getD w 0 = b.getD w 0) : a = b := by
  apply List.ext_getElem (by rw [ha, hb])
  intro w h1 h2
  have := h w (by rw [← ha]; exact h1)
  simpa [List.getD_eq_getElem?_getD, h1, h2] using this

theorem length_localTable (F : Nat) (contrib : Nat → List β) (log : List (Nat × Nat)) (r : Nat) :
    (localTable F contrib log r).length = F := by
  unfold localTable
  rw [(foldl_accumulate (fun x : Nat × Nat => contrib x.1) _ _).1, length_zeroTable]

theorem getD_localTable (F : Nat) (contrib : Nat → List β) (log : List (Nat × Nat)) (r w : Nat) (hw : w < F) :
    (localTable F contrib log r).getD w 0 =
      ((log.filter fun x => x.2 == r).map fun x => (contrib x.1).getD w 0).sum := by
  unfold localTable
  rw [(foldl_accumulate (fun x : Nat × Nat => contrib x.1) _ _).2 w (by rw [length_zeroTable]; exact hw),
    getD_zeroTable, zero_add]

theorem length_reduceTables (P F : Nat) (contrib : Nat → List β) (log : List (Nat × Nat)) :
    (reduceTables P F contrib log).length = F := by
  unfold reduceTables
  rw [(foldl_accumulate (fun r : Nat => localTable F contrib log r) _ _).1, length_zeroTable]

theorem list_range_sum (n : Nat) (f : Nat → β) : ((List.range n).map f).sum = ∑ i ∈ Finset.range n, f i :=
  rfl

theorem sum_over_ranks (P : Nat) (f : Nat × Nat → β) (log : List (Nat × Nat)) (h : ∀ x ∈ log, x.2 < P) :
    ∑ r ∈ Finset.range P, ((log.filter fun x => x.2 == r).map f).sum = (log.map f).sum := by
  induction log with
  | nil => simp
  | cons x log ih =>
    have hx : x.2 < P := h x List.mem_cons_self
    have ih' := ih (fun y hy => h y (List.mem_cons_of_mem _ hy))
    have e : ∀ r, (((x :: log).filter fun y => y.2 == r).map f).sum =
        (if x.2 = r then f x else 0) + ((log.filter fun y => y.2 == r).map f).sum := by
      intro r
      by_cases hr : x.2 = r
      · simp [hr]
      · simp [hr]
    simp only [e]
    rw [Finset.sum_add_distrib, ih', Finset.sum_ite_eq, if_pos (Finset.mem_range.2 hx)]
    simp

theorem getD_reduceTables (P F : Nat) (contrib : Nat → List β) (log : List (Nat × Nat))
    (h : ∀ x ∈ log, x.2 < P) (w : Nat) (hw : w < F) :
    (reduceTables P F contrib log).getD w 0 = (log.map fun x => (contrib x.1).getD w 0).sum := by
  unfold reduceTables
  rw [(foldl_accumulate (fun r : Nat => localTable F contrib log r) _ _).2 w (by rw [length_zeroTable]; exact hw),
    getD_zeroTable, zero_add, list_range_sum]
  rw [← sum_over_ranks P (fun x => (contrib x.1).getD w 0) log h]
  exact Finset.sum_congr rfl fun r _ => getD_localTable F contrib log r w hw

theorem length_serialTable (J F : Nat) (contrib : Nat → List β) : (serialTable J F contrib).length = F := by
  unfold serialTable
  rw [(foldl_accumulate contrib _ _).1, length_zeroTable]

theorem getD_serialTable (J F : Nat) (contrib : Nat → List β) (w : Nat) (hw : w < F) :
    (serialTable J F contrib).getD w 0 = ∑ p ∈ Finset.range J, (contrib p).getD w 0 := by
  unfold serialTable
  rw [(foldl_accumulate contrib _ _).2 w (by rw [length_zeroTable]; exact hw), getD_zeroTable, zero_add,
    list_range_sum]

theorem reduce_counts_multiplicity (P J F : Nat) (contrib : Nat → List β) (log : List (Nat × Nat))
    (h : ∀ x ∈ log, x.1 < J ∧ x.2 < P) (w : Nat) (hw : w < F) :
    (reduceTables P F contrib log).getD w 0 =
      ∑ p ∈ Finset.range J, (log.map (·.1)).count p • (contrib p).getD w 0 := by
  rw [getD_reduceTables P F contrib log (fun x hx => (h x hx).2) w hw]
  have e : (log.map fun x => (contrib x.1).getD w 0) = (log.map (·.1)).map fun p => (contrib p).getD w 0 := by
    rw [List.map_map]; rfl
  rw [e, Finset.sum_list_map_count]
  apply Finset.sum_subset
  · intro p hp
    rw [List.mem_toFinset, List.mem_map] at hp
    obtain ⟨x, hx, rfl⟩ := hp
    exact Finset.mem_range.2 (h x hx).1
  · intro p _ hp
    rw [List.mem_toFinset] at hp
    rw [List.count_eq_zero_of_not_mem hp, zero_nsmul]

/-- every part `p < J` is executed exactly once, on a rank of the communicator, and nothing else is executed
(what C16 proves for a finished dispatch round) -/
def ExactlyOnce (P J : Nat) (log : List (Nat × Nat)) : Prop :=
  (log.map (·.1)).Nodup ∧ (∀ p, p ∈ log.map (·.1) ↔ p < J) ∧ ∀ x ∈ log, x.2 < P

theorem ExactlyOnce.count_eq {P J : Nat} {log : List (Nat × Nat)} (h : ExactlyOnce P J log) (p : Nat)
    (hp : p < J) : (log.map (·.1)).count p = 1 := by
  rw [List.Nodup.count h.1, if_pos ((h.2.1 p).2 hp)]

theorem exactlyOnce_iff_count (P J : Nat) (log : List (Nat × Nat)) :
    ExactlyOnce P J log ↔
      (∀ p, p < J → (log.filter fun x => x.1 = p).length = 1) ∧ ∀ x ∈ log, x.1 < J ∧ x.2 < P := by
  have hc : ∀ p, (log.filter fun x => x.1 = p).length = (log.map (·.1)).count p := length_filter_job log
  constructor
  · intro h
    exact ⟨fun p hp => by rw [hc, h.count_eq p hp],
      fun x hx => ⟨(h.2.1 x.1).1 (List.mem_map.2 ⟨x, hx, rfl⟩), h.2.2 x hx⟩⟩
  · rintro ⟨hcnt, hlt⟩
    refine ⟨?_, ?_, fun x hx => (hlt x hx).2⟩
    · rw [List.nodup_iff_count_le_one]
      intro p
      by_cases hp : p ∈ log.map (·.1)
      · obtain ⟨x, hx, rfl⟩ := List.mem_map.1 hp
        rw [← hc, hcnt _ (hlt x hx).1]
      · rw [List.count_eq_zero_of_not_mem hp]; exact Nat.zero_le 1
    · intro p
      constructor
      · intro hp
        obtain ⟨x, hx, rfl⟩ := List.mem_map.1 hp
        exact (hlt x hx).1
      · intro hp
        have := hcnt p hp
        rw [hc] at this
        exact List.count_pos_iff.1 (this ▸ Nat.one_pos)

theorem ownerLog_exactlyOnce (P J : Nat) (owner : Nat → Nat) (hown : ∀ p, p < J → owner p < P) :
    ExactlyOnce P J (ownerLog J owner) := by
  have e : (ownerLog J owner).map (·.1) = List.range J := by
    simp [ownerLog, List.map_map, Function.comp_def]
  refine ⟨by rw [e]; exact List.nodup_range, fun p => by rw [e, List.mem_range], ?_⟩
  intro x hx
  simp only [ownerLog, List.mem_map, List.mem_range] at hx
  obtain ⟨p, hp, rfl⟩ := hx
  exact hown p hp

theorem reduce_is_sum_over_parts (P J F : Nat) (contrib : Nat → List β) (log : List (Nat × Nat))
    (h : ExactlyOnce P J log) :
    reduceTables P F contrib log = serialTable J F contrib ∧
    (reduceTables P F contrib log).length = F ∧
    ∀ w, w < F → (reduceTables P F contrib log).getD w 0 = ∑ p ∈ Finset.range J, (contrib p).getD w 0 := by
  have key : ∀ w, w < F →
      (reduceTables P F contrib log).getD w 0 = ∑ p ∈ Finset.range J, (contrib p).getD w 0 := by
    intro w hw
    rw [reduce_counts_multiplicity P J F contrib log
      (fun x hx => ⟨(h.2.1 x.1).1 (List.mem_map.2 ⟨x, hx, rfl⟩), h.2.2 x hx⟩) w hw]
    apply Finset.sum_congr rfl
    intro p hp
    rw [h.count_eq p (Finset.mem_range.1 hp), one_nsmul]
  refine ⟨?_, length_reduceTables P F contrib log, key⟩
  apply table_ext F _ _ (length_reduceTables P F contrib log) (length_serialTable J F contrib)
  intro w hw
  rw [key w hw, getD_serialTable J F contrib w hw]

theorem reduce_owner_is_serial (P J F : Nat) (contrib : Nat → List β) (owner : Nat → Nat)
    (hown : ∀ p, p < J → owner p < P) :
    reduceTables P F contrib (ownerLog J owner) = serialTable J F contrib :=
  (reduce_is_sum_over_parts P J F contrib _ (ownerLog_exactlyOnce P J owner hown)).1

theorem reduceWorld_spec (P F : Nat) (contrib : Nat → List β) (log : List (Nat × Nat)) (r : Nat) (hr : r < P) :
    (reduceWorld P F contrib log).getD r [] =
      if r = 0 then reduceTables P F contrib log else zeroTable F := by
  simp [reduceWorld, List.getD_eq_getElem?_getD, hr]

end Tables

-- `hjobs`: `mpi_skel::run` builds the job list by sorting the job numbers `0 … J-1` by complexity
theorem final_owner (P J : Nat) (jobs : List Nat) (hP : 0 < P) (hjobs : jobs.Perm (List.range J)) (s : Sys)
    (h : Reachable P jobs s) (hf : allExited s = true) (p : Nat) (hp : p < J) :
    ownerOfMap s.m.dmap p < P ∧ (p, ownerOfMap s.m.dmap p) ∈ s.log := by
  have hnd : jobs.Nodup := hjobs.nodup_iff.2 List.nodup_range
  have hpj : p ∈ jobs := hjobs.mem_iff.2 (List.mem_range.2 hp)
  have hpool := reachable_pool P jobs hnd s h
  have hin := (hpool.final hP (all_exited hf)).1 p hpj
  obtain ⟨x, hx, rfl⟩ := List.mem_map.1 hin
  have hd := hpool.dmap_truth hnd x hx
  have hlt := (hpool.at_most_once.2 x hx).2
  have e : ownerOfMap s.m.dmap x.1 = x.2 := by rw [ownerOfMap, hd]; rfl
  rw [e]
  exact ⟨hlt, hx⟩

theorem final_exactlyOnce (P J : Nat) (jobs : List Nat) (hP : 0 < P) (hjobs : jobs.Perm (List.range J)) (s : Sys)
    (h : Reachable P jobs s) (hf : allExited s = true) : ExactlyOnce P J s.log := by
  have hnd : jobs.Nodup := hjobs.nodup_iff.2 List.nodup_range
  have hpool := reachable_pool P jobs hnd s h
  obtain ⟨h1, h2⟩ := hpool.at_most_once
  refine ⟨h1, ?_, fun x hx => (h2 x hx).2⟩
  intro p
  constructor
  · intro hp
    obtain ⟨x, hx, rfl⟩ := List.mem_map.1 hp
    exact List.mem_range.1 (hjobs.mem_iff.1 (h2 x hx).1)
  · intro hp
    exact (hpool.final hP (all_exited hf)).1 p (hjobs.mem_iff.2 (List.mem_range.2 hp))

theorem distributed_step_refines_serial {α β : Type} [AddCommMonoid β] (P J : Nat) (jobs : List Nat) (hP : 0 < P)
    (hjobs : jobs.Perm (List.range J)) (s : Sys) (h : Reachable P jobs s) (hf : allExited s = true)
    (result : Nat → α) (stale : Nat → Nat → Option α) (F : Nat) (contrib : Nat → List β) :
    (∀ r p, r < P → p < J →
      entry (bcastAll J (ownerOfMap s.m.dmap) (initWorld P J (ranByLog s.log) result stale)) r p
        = some (result p)) ∧
    bcastAll J (ownerOfMap s.m.dmap) (initWorld P J (ranByLog s.log) result stale)
      = List.replicate P ((List.range J).map fun p => some (result p)) ∧
    reduceTables P F contrib s.log = serialTable J F contrib ∧
    (∀ w, w < F → (reduceTables P F contrib s.log).getD w 0 = ∑ p ∈ Finset.range J, (contrib p).getD w 0) := by
  have hown : ∀ p, p < J →
      ownerOfMap s.m.dmap p < P ∧ ranByLog s.log (ownerOfMap s.m.dmap p) p = true := by
    intro p hp
    obtain ⟨h1, h2⟩ := final_owner P J jobs hP hjobs s h hf p hp
    exact ⟨h1, by simpa [ranByLog] using h2⟩
  have hred := reduce_is_sum_over_parts P J F contrib s.log (final_exactlyOnce P J jobs hP hjobs s h hf)
  have hb := bcast_all_ranks_agree P J _ _ result stale hown
  exact ⟨hb.1, hb.2, hred.1, hred.2.2⟩

end Pomerol.Spec.Collect
