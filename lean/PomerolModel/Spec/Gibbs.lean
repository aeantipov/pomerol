/-
  Gibbs weights / density matrix as the library computes them, and ensemble averages as traces with
  the Fock-basis density matrix (C09).
-/
import PomerolModel.Spec.Lehmann
import Mathlib.LinearAlgebra.Matrix.ConjTranspose

namespace Pomerol.Spec
open Matrix Complex

variable {ι : Type} [Fintype ι] [DecidableEq ι]

set_option linter.unusedSectionVars false

/-! ## (1) the density matrix as the library computes it: weights exp(−β(E − E0)) with a reference
energy E0, normalised -/

noncomputable def shiftedWeight (β E0 E : ℝ) : ℝ := Real.exp (-β * (E - E0))
noncomputable def shiftedZ (d : EigenData ι) (E0 : ℝ) : ℝ := ∑ n, shiftedWeight d.β E0 (d.E n)

theorem shiftedWeight_eq (β E0 E : ℝ) :
    shiftedWeight β E0 E = Real.exp (β * E0) * Real.exp (-β * E) := by
  unfold shiftedWeight
  rw [← Real.exp_add]
  congr 1; ring

theorem shifted_normalised [Nonempty ι] (d : EigenData ι) (E0 : ℝ) (n : ι) :
    shiftedWeight d.β E0 (d.E n) / shiftedZ d E0 = d.w n := by
  unfold shiftedZ EigenData.w EigenData.Z
  simp_rw [shiftedWeight_eq]
  rw [← Finset.mul_sum, mul_div_mul_left _ _ (Real.exp_pos _).ne']

/-- with E0 the ground energy every exponent is ≤ 0: unnormalised weights lie in (0,1] and
1 ≤ Z ≤ dim — no overflow however large β·bandwidth or the energy offset -/
theorem shifted_le_one (d : EigenData ι) (E0 : ℝ) (hmin : ∀ n, E0 ≤ d.E n) (n : ι) :
    0 < shiftedWeight d.β E0 (d.E n) ∧ shiftedWeight d.β E0 (d.E n) ≤ 1 := by
  unfold shiftedWeight
  refine ⟨Real.exp_pos _, ?_⟩
  rw [Real.exp_le_one_iff]
  have h1 : 0 ≤ d.β * (d.E n - E0) := mul_nonneg d.hβ.le (sub_nonneg.mpr (hmin n))
  linarith

theorem shiftedZ_bounds (d : EigenData ι) (E0 : ℝ) (hmin : ∀ n, E0 ≤ d.E n)
    (hex : ∃ n, d.E n = E0) :
    1 ≤ shiftedZ d E0 ∧ shiftedZ d E0 ≤ Fintype.card ι := by
  obtain ⟨n0, hn0⟩ := hex
  constructor
  · have h1 : shiftedWeight d.β E0 (d.E n0) = 1 := by
      unfold shiftedWeight; rw [hn0]; simp
    calc (1:ℝ) = shiftedWeight d.β E0 (d.E n0) := h1.symm
      _ ≤ shiftedZ d E0 :=
        Finset.single_le_sum (f := fun n => shiftedWeight d.β E0 (d.E n))
          (fun i _ => (shifted_le_one d E0 hmin i).1.le) (Finset.mem_univ n0)
  · calc shiftedZ d E0 ≤ ∑ _n : ι, (1:ℝ) :=
          Finset.sum_le_sum (fun i _ => (shifted_le_one d E0 hmin i).2)
      _ = Fintype.card ι := by rw [Finset.sum_const, Finset.card_univ, nsmul_eq_mul, mul_one]

theorem w_le_one [Nonempty ι] (d : EigenData ι) (n : ι) : d.w n ≤ 1 :=
  calc d.w n ≤ ∑ m, d.w m :=
        Finset.single_le_sum (f := d.w) (fun i _ => (w_pos d i).le) (Finset.mem_univ n)
    _ = 1 := w_sum d

theorem w_div [Nonempty ι] (d : EigenData ι) (a b : ι) :
    d.w a / d.w b = Real.exp (-d.β * (d.E a - d.E b)) := by
  have h := w_ratio' d b a
  rw [h, mul_div_cancel_left₀ _ (w_pos d b).ne']

theorem w_offset [Nonempty ι] (d : EigenData ι) (c : ℝ) (n : ι) :
    (EigenData.w ⟨d.β, d.hβ, fun m => d.E m + c⟩ n) = d.w n := by
  -- a constant offset of all energies is a change of the reference energy
  rw [← shifted_normalised d (-c) n]
  simp only [EigenData.w, EigenData.Z, shiftedZ, shiftedWeight, sub_neg_eq_add]

/-! ## (2) averages are traces with the Fock-basis density matrix.  `V : Matrix σ ι ℂ`-style
bookkeeping is avoided by taking σ = ι: V is the unitary matrix whose columns are the eigenvectors
expanded in Fock states -/

noncomputable def rhoF (d : EigenData ι) (V : Matrix ι ι ℂ) : Matrix ι ι ℂ := V * d.ρ * Vᴴ
noncomputable def hamF (d : EigenData ι) (V : Matrix ι ι ℂ) : Matrix ι ι ℂ := V * d.H * Vᴴ

/-- the three trace identities behind the averages, for arbitrary weights `w` (and energies `E`) in
place of the Gibbs weights `d.w` (`d.E`): `avg_diagonal`, `avg_operator`, `avg_energy` below are
instances, and `Spec/AveragesSpec.lean` uses them with the weights its loops compute -/
theorem trace_diag_general (V : Matrix ι ι ℂ) (w x : ι → ℝ) :
    ((∑ s, w s * ∑ f, x f * Complex.normSq (V f s) : ℝ) : ℂ)
      = (V * diagonal (fun s => (w s : ℂ)) * Vᴴ * diagonal (fun f => (x f : ℂ))).trace := by
  rw [Matrix.trace]
  simp only [diag_apply, mul_diagonal]
  simp only [Matrix.mul_apply (N := Vᴴ), mul_diagonal, conjTranspose_apply]
  push_cast
  simp only [Finset.mul_sum]
  rw [Finset.sum_comm]
  refine Finset.sum_congr rfl fun f _ => ?_
  rw [Finset.sum_mul]
  refine Finset.sum_congr rfl fun s _ => ?_
  rw [← Complex.mul_conj, Complex.star_def]
  ring

theorem trace_operator_general (V AF : Matrix ι ι ℂ) (w : ι → ℝ) :
    (∑ s, (Vᴴ * AF * V) s s * (w s : ℂ))
      = (V * diagonal (fun s => (w s : ℂ)) * Vᴴ * AF).trace := by
  rw [Matrix.mul_assoc _ Vᴴ AF, Matrix.mul_assoc V, Matrix.trace_mul_comm,
    Matrix.mul_assoc (diagonal _), Matrix.trace]
  simp only [diag_apply, diagonal_mul]
  exact Finset.sum_congr rfl fun s _ => mul_comm _ _

theorem trace_energy_general (V H : Matrix ι ι ℂ) (w E : ι → ℝ) (hV : Vᴴ * V = 1)
    (hH : H * V = V * diagonal (fun s => (E s : ℂ))) :
    ((∑ s, w s * E s : ℝ) : ℂ) = (V * diagonal (fun s => (w s : ℂ)) * Vᴴ * H).trace := by
  rw [Matrix.mul_assoc, Matrix.mul_assoc V, Matrix.trace_mul_comm, Matrix.mul_assoc,
    Matrix.mul_assoc, hH, ← Matrix.mul_assoc Vᴴ, hV, Matrix.one_mul, diagonal_mul_diagonal,
    trace_diagonal]
  push_cast
  rfl

/-- the library's formula for the average of a Fock-diagonal observable `x` (occupancy n_i, double
occupancy n_i n_j, total N): Σ_s w_s Σ_f x(f) |V_{f s}|² -/
theorem avg_diagonal (d : EigenData ι) (V : Matrix ι ι ℂ) (x : ι → ℝ) :
    ((∑ s, ∑ f, d.w s * x f * Complex.normSq (V f s) : ℝ) : ℂ)
      = (rhoF d V * diagonal (fun f => (x f : ℂ))).trace := by
  simp only [mul_assoc, ← Finset.mul_sum]
  exact trace_diag_general V d.w x

theorem avg_energy (d : EigenData ι) (V : Matrix ι ι ℂ) (hV : Vᴴ * V = 1) :
    ((∑ s, d.w s * d.E s : ℝ) : ℂ) = (rhoF d V * hamF d V).trace :=
  trace_energy_general V (hamF d V) d.w d.E hV
    (by rw [hamF, Matrix.mul_assoc, Matrix.mul_assoc, hV, Matrix.mul_one]; rfl)

/-- ensemble average of an operator with Fock matrix `AF`: the library sums the diagonal of the
rotated operator times the weights -/
theorem avg_operator (d : EigenData ι) (V : Matrix ι ι ℂ) (AF : Matrix ι ι ℂ) :
    (∑ s, (Vᴴ * AF * V) s s * (d.w s : ℂ)) = (rhoF d V * AF).trace :=
  trace_operator_general V AF d.w

theorem rhoF_trace [Nonempty ι] (d : EigenData ι) (V : Matrix ι ι ℂ) (hV : Vᴴ * V = 1) :
    (rhoF d V).trace = 1 := by
  unfold rhoF
  rw [Matrix.mul_assoc, Matrix.trace_mul_comm, Matrix.mul_assoc, hV, Matrix.mul_one]
  unfold EigenData.ρ
  rw [trace_diagonal, ← Complex.ofReal_sum, w_sum d, Complex.ofReal_one]

end Pomerol.Spec
