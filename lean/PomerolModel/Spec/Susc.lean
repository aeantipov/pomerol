/-
  Bosonic Lehmann representation of the dynamical susceptibility, static limit included (C14).

  The transform is the one of `Spec/Lehmann.lean` with `e^{iΩ_kβ} = +1`.  What is new is a pair of
  degenerate levels ("zero pole"): its integrand is `e^{iΩ_kτ}` alone, so it contributes at `k = 0` only,
  and there `β·w_n·A_nm·B_mn` (`const_transform`, which is also the transform of the disconnected part).
-/
import PomerolModel.Spec.Lehmann

namespace Pomerol.Spec
open Matrix Complex

variable {ι : Type} [Fintype ι] [DecidableEq ι]

set_option linter.unusedSectionVars false

/-- χ_AB(iΩ_k) := ∫₀^β ⟨A(τ) B(0)⟩ e^{iΩ_k τ} dτ -/
noncomputable def EigenData.suscDef (d : EigenData ι) (A B : Matrix ι ι ℂ) (k : ℤ) : ℂ :=
  ∫ τ in (0:ℝ)..d.β, d.corr A B τ * Complex.exp (I * (d.Ω k : ℂ) * (τ : ℂ))

/-- the library's evaluation: pairs of levels with E_m ≠ E_n give −R/(z − P) with
R = A_nm B_mn (w_n − w_m), P = E_m − E_n; pairs with E_m = E_n ("zero pole") contribute
β·w_n·A_nm·B_mn at Ω = 0 only -/
noncomputable def EigenData.lehmannSusc (d : EigenData ι) (A B : Matrix ι ι ℂ) (k : ℤ) : ℂ :=
  ∑ n, ∑ m, if d.E m = d.E n then
              (if k = 0 then (d.β : ℂ) * (d.w n : ℂ) * A n m * B m n else 0)
            else -(A n m * B m n * ((d.w n : ℂ) - (d.w m : ℂ)))
                  / (I * (d.Ω k : ℂ) - ((d.E m - d.E n : ℝ) : ℂ))

noncomputable def EigenData.suscTerm (d : EigenData ι) (A B : Matrix ι ι ℂ) (k : ℤ) (n m : ι) : ℂ :=
  if d.E m = d.E n then
    (if k = 0 then (d.β : ℂ) * (d.w n : ℂ) * A n m * B m n else 0)
  else -(A n m * B m n * ((d.w n : ℂ) - (d.w m : ℂ)))
        / (I * (d.Ω k : ℂ) - ((d.E m - d.E n : ℝ) : ℂ))

theorem lehmannSusc_eq_sum_suscTerm (d : EigenData ι) (A B : Matrix ι ι ℂ) (k : ℤ) :
    d.lehmannSusc A B k = ∑ n, ∑ m, d.suscTerm A B k n m := rfl

theorem suscTerm_of_eq (d : EigenData ι) (A B : Matrix ι ι ℂ) (k : ℤ) {n m : ι}
    (hE : d.E m = d.E n) :
    d.suscTerm A B k n m = if k = 0 then (d.β : ℂ) * (d.w n : ℂ) * A n m * B m n else 0 :=
  if_pos hE

theorem norm_suscTerm_of_ne (d : EigenData ι) (A B : Matrix ι ι ℂ) (k : ℤ) {n m : ι}
    (hE : d.E m ≠ d.E n) :
    ‖d.suscTerm A B k n m‖ = ‖A n m‖ * ‖B m n‖
      * ‖((d.w n : ℂ) - (d.w m : ℂ)) / (I * (d.Ω k : ℂ) - ((d.E m - d.E n : ℝ) : ℂ))‖ := by
  unfold EigenData.suscTerm
  rw [if_neg hE, neg_div, norm_neg, mul_div_assoc, norm_mul, norm_mul]

theorem suscTerm_eq_zero (d : EigenData ι) (A B : Matrix ι ι ℂ) (k : ℤ) {n m : ι}
    (hA : A n m = 0) : d.suscTerm A B k n m = 0 := by
  unfold EigenData.suscTerm
  simp only [hA, zero_mul, mul_zero, neg_zero, zero_div, ite_self]

theorem exp_I_Omega_beta (d : EigenData ι) (k : ℤ) :
    Complex.exp (I * (d.Ω k : ℂ) * (d.β : ℂ)) = 1 := by
  have : I * (d.Ω k : ℂ) * (d.β : ℂ) = (k : ℂ) * (2 * (Real.pi : ℂ) * I) := by
    rw [mul_assoc, ← Complex.ofReal_mul, EigenData.Ω, div_mul_cancel₀ _ d.hβ.ne']
    push_cast
    ring
  rw [this, Complex.exp_int_mul_two_pi_mul_I]

theorem Omega_eq_zero_iff (d : EigenData ι) (k : ℤ) : d.Ω k = 0 ↔ k = 0 := by
  simp [EigenData.Ω, d.hβ.ne', Real.pi_ne_zero]

theorem Omega_zero (d : EigenData ι) : d.Ω 0 = 0 := (Omega_eq_zero_iff d 0).mpr rfl

theorem abs_Omega_pos (d : EigenData ι) {k : ℤ} (hk : k ≠ 0) : 0 < |d.Ω k| :=
  abs_pos.mpr fun h => hk ((Omega_eq_zero_iff d k).mp h)

theorem I_Omega_sub_ne_zero (d : EigenData ι) (k : ℤ) (P : ℝ) (h : P ≠ 0 ∨ k ≠ 0) :
    I * (d.Ω k : ℂ) - (P : ℂ) ≠ 0 := by
  intro h0
  rcases h with h | h
  · have := congrArg Complex.re h0
    simp at this
    exact h this
  · have := congrArg Complex.im h0
    simp at this
    exact h ((Omega_eq_zero_iff d k).mp this)

theorem one_sub_exp_beta_ne_zero (d : EigenData ι) (P : ℝ) (hP : P ≠ 0) :
    (1 : ℂ) - Complex.exp (-(d.β:ℂ) * (P:ℂ)) ≠ 0 := by
  have h : (1:ℝ) - Real.exp (-d.β * P) ≠ 0 := fun h =>
    mul_ne_zero (neg_ne_zero.mpr d.hβ.ne') hP ((Real.exp_eq_one_iff _).mp (sub_eq_zero.mp h).symm)
  exact_mod_cast h

/-- disconnected part: subtracting β⟨A⟩⟨B⟩ at k = 0 only is the transform of subtracting the
constant ⟨A⟩⟨B⟩ in τ -/
theorem const_transform (d : EigenData ι) (c : ℂ) (k : ℤ) :
    ∫ τ in (0:ℝ)..d.β, c * Complex.exp (I * (d.Ω k : ℂ) * (τ:ℂ))
      = if k = 0 then (d.β : ℂ) * c else 0 := by
  rw [intervalIntegral.integral_const_mul]
  split_ifs with hk
  · rw [hk, Omega_zero]
    simp [mul_comm]
  · have h := integral_exp_pole d.β (I * (d.Ω k : ℂ)) 0 (I_Omega_sub_ne_zero d k 0 (Or.inr hk))
    simp only [Complex.ofReal_zero, mul_zero, Complex.exp_zero, one_mul, mul_one,
      exp_I_Omega_beta, sub_self, zero_div] at h
    rw [h, mul_zero]

/-- C14: for every spectrum (degenerate levels included), every β>0, every pair of
matrices and every bosonic Matsubara number including 0 and negative ones -/
theorem lehmann_susc (d : EigenData ι) (A B : Matrix ι ι ℂ) (k : ℤ) :
    d.suscDef A B k = d.lehmannSusc A B k := by
  unfold EigenData.suscDef EigenData.lehmannSusc
  rw [corr_transform]
  refine Finset.sum_congr rfl fun n _ => Finset.sum_congr rfl fun m _ => ?_
  by_cases hE : d.E m = d.E n
  · -- zero pole: the integrand is `e^{iΩ_k τ}`
    have h := const_transform d 1 k
    simp only [one_mul, mul_one] at h
    rw [if_pos hE, hE, sub_self, Complex.ofReal_zero]
    simp only [mul_zero, Complex.exp_zero, one_mul, h]
    split_ifs <;> ring
  · have hP : d.E m - d.E n ≠ 0 := sub_ne_zero.mpr hE
    have hc := I_Omega_sub_ne_zero d k _ (Or.inl hP)
    rw [if_neg hE, integral_exp_pole _ _ _ hc, exp_I_Omega_beta, w_ratio_cast d n m]
    ring

/-- the library's imaginary-time formula for one non-zero-pole term (both overflow-safe branches
are this function) -/
noncomputable def suscTauTerm (β : ℝ) (R : ℂ) (P : ℝ) (τ : ℝ) : ℂ :=
  R * Complex.exp (-(τ:ℂ) * (P:ℂ)) / (1 - Complex.exp (-(β:ℂ) * (P:ℂ)))

/-- holds for all `P` (for `P = 0` both sides are `_/0 = 0`) -/
theorem suscTauTerm_branch (β : ℝ) (R : ℂ) (P : ℝ) (τ : ℝ) :
    suscTauTerm β R P τ
      = R * Complex.exp (((β:ℂ) - (τ:ℂ)) * (P:ℂ)) / (Complex.exp ((β:ℂ) * (P:ℂ)) - 1) := by
  simpa only [suscTauTerm, one_mul] using expTerm_branch β R 1 P τ

theorem suscTauTerm_forward (d : EigenData ι) (R : ℂ) (P : ℝ) (hP : P ≠ 0) (k : ℤ) :
    ∫ τ in (0:ℝ)..d.β, suscTauTerm d.β R P τ * Complex.exp (I * (d.Ω k : ℂ) * (τ:ℂ))
      = -R / (I * (d.Ω k : ℂ) - (P:ℂ)) := by
  have hc := I_Omega_sub_ne_zero d k P (Or.inl hP)
  have hne := one_sub_exp_beta_ne_zero d P hP
  rw [neg_mul] at hne -- the form in which `field_simp` meets this denominator
  unfold suscTauTerm
  rw [expTerm_forward _ _ _ _ _ hc, exp_I_Omega_beta]
  field_simp
  ring

/-- the imaginary-time value the library returns (sum of the terms plus the zero-pole weight) is
the correlator ⟨A(τ)B(0)⟩ -/
theorem susc_tau_eq_corr (d : EigenData ι) (A B : Matrix ι ι ℂ) (τ : ℝ) :
    (∑ n, ∑ m, if d.E m = d.E n then (d.w n : ℂ) * A n m * B m n
               else suscTauTerm d.β (A n m * B m n * ((d.w n : ℂ) - (d.w m : ℂ)))
                      (d.E m - d.E n) τ)
      = d.corr A B τ := by
  rw [corr_eq_sum]
  refine Finset.sum_congr rfl fun n _ => Finset.sum_congr rfl fun m _ => ?_
  by_cases hE : d.E m = d.E n
  · rw [if_pos hE, hE]
    simp
  · rw [if_neg hE]
    have hP : d.E m - d.E n ≠ 0 := sub_ne_zero.mpr hE
    have hne := one_sub_exp_beta_ne_zero d (d.E m - d.E n) hP
    unfold suscTauTerm
    rw [w_ratio_cast d n m, div_eq_iff hne]
    ring

end Pomerol.Spec
