/-
  The universal `*`-algebra of the canonical anticommutation relations over `ℚ`: the free algebra on
  `c_i`, `c†_i` with the involution "reverse the word and exchange `c_i ↔ c†_i`", divided by the CAR.
  It carries a representation of the CAR with `star c_i = c†_i` (`carStarRep`), every representation
  over `ℚ` factors through it (`ofRep`), and it is not the zero ring because the Jordan-Wigner
  representation is not (`carAlg_nontrivial`): the hypotheses of the Hermiticity theorems of
  `Spec/PresetSem.lean` are satisfiable non-trivially.
-/
import PomerolModel.Spec.CAR
import PomerolModel.Spec.JW
import Mathlib.Algebra.Star.Free
import Mathlib.Algebra.Star.RingQuot
import Mathlib.Algebra.Star.Rat
import Mathlib.Algebra.Field.Rat

namespace Pomerol.Spec.PresetSem
open Pomerol.Model Pomerol.Spec

section StarModel

/-- generators of the free algebra (not the namespace `Pomerol.Gen` of the generated formulas):
`(true, i)` = `c_i`, `(false, i)` = `c†_i`, i.e. `true` = annihilation as in `Op.ann`, the opposite of
`Term.ops` and `factorSem` -/
abbrev Gen := Bool × ℕ

noncomputable def swapHom : FreeAlgebra ℚ Gen →ₐ[ℚ] FreeAlgebra ℚ Gen :=
  FreeAlgebra.lift ℚ (fun g => FreeAlgebra.ι ℚ (!g.1, g.2))

theorem swapHom_ι (g : Gen) : swapHom (FreeAlgebra.ι ℚ g) = FreeAlgebra.ι ℚ (!g.1, g.2) :=
  FreeAlgebra.lift_ι_apply _ _

theorem swapHom_star (x : FreeAlgebra ℚ Gen) : swapHom (star x) = star (swapHom x) := by
  induction x using FreeAlgebra.induction with
  | grade0 r => simp
  | grade1 g => simp [swapHom_ι]
  | mul a b ha hb => simp [ha, hb]
  | add a b ha hb => simp [ha, hb]

theorem swapHom_swapHom (x : FreeAlgebra ℚ Gen) : swapHom (swapHom x) = x := by
  induction x using FreeAlgebra.induction with
  | grade0 r => simp
  | grade1 g => simp [swapHom_ι]
  | mul a b ha hb => simp [ha, hb]
  | add a b ha hb => simp [ha, hb]

/-- a copy of the free algebra on `c_i`, `c†_i`, to carry the involution "reverse the word and exchange
`c_i ↔ c†_i`" in place of Mathlib's, which only reverses the word -/
def FA : Type := FreeAlgebra ℚ Gen
noncomputable instance : Ring FA := inferInstanceAs (Ring (FreeAlgebra ℚ Gen))
noncomputable instance : Algebra ℚ FA := inferInstanceAs (Algebra ℚ (FreeAlgebra ℚ Gen))

noncomputable instance : StarRing FA where
  star x := swapHom (star (show FreeAlgebra ℚ Gen from x))
  star_involutive x := by
    show swapHom (star (swapHom (star (show FreeAlgebra ℚ Gen from x)))) = x
    rw [← swapHom_star, swapHom_swapHom, star_star]
  star_mul a b := by
    show swapHom (star ((show FreeAlgebra ℚ Gen from a) * (show FreeAlgebra ℚ Gen from b))) = _
    rw [star_mul, map_mul]; rfl
  star_add a b := by
    show swapHom (star ((show FreeAlgebra ℚ Gen from a) + (show FreeAlgebra ℚ Gen from b))) = _
    rw [star_add, map_add]; rfl

noncomputable def fc (i : ℕ) : FA := FreeAlgebra.ι ℚ (true, i)
noncomputable def fcd (i : ℕ) : FA := FreeAlgebra.ι ℚ (false, i)

theorem star_fc (i : ℕ) : star (fc i) = fcd i := by
  show swapHom (star (FreeAlgebra.ι ℚ (true, i))) = FreeAlgebra.ι ℚ (false, i)
  rw [FreeAlgebra.star_ι, swapHom_ι]; rfl

theorem star_fcd (i : ℕ) : star (fcd i) = fc i := by
  show swapHom (star (FreeAlgebra.ι ℚ (false, i))) = FreeAlgebra.ι ℚ (true, i)
  rw [FreeAlgebra.star_ι, swapHom_ι]; rfl

inductive CARRel : FA → FA → Prop
  | cc (i j : ℕ) : CARRel (fc i * fc j + fc j * fc i) 0
  | cdcd (i j : ℕ) : CARRel (fcd i * fcd j + fcd j * fcd i) 0
  | ccd (i j : ℕ) : CARRel (fc i * fcd j + fcd j * fc i) (if i = j then 1 else 0)

theorem CARRel.star_closed : ∀ a b, CARRel a b → CARRel (star a) (star b) := by
  intro a b h
  cases h with
  | cc i j =>
    simp only [star_add, star_mul, star_fc, star_zero]
    exact CARRel.cdcd j i
  | cdcd i j =>
    simp only [star_add, star_mul, star_fcd, star_zero]
    exact CARRel.cc j i
  | ccd i j =>
    simp only [star_add, star_mul, star_fc, star_fcd]
    have : star (if i = j then (1 : FA) else 0) = if j = i then 1 else 0 := by
      by_cases h : i = j
      · rw [if_pos h, if_pos h.symm, star_one]
      · rw [if_neg h, if_neg (fun e => h e.symm), star_zero]
    rw [this]
    exact CARRel.ccd j i

abbrev CARAlg : Type := RingQuot CARRel

noncomputable instance : StarRing CARAlg := RingQuot.starRing CARRel CARRel.star_closed

theorem star_mk (x : FA) :
    star (RingQuot.mkAlgHom ℚ CARRel x) = RingQuot.mkAlgHom ℚ CARRel (star x) := by
  simp only [RingQuot.mkAlgHom_def, RingQuot.mkRingHom_def]
  rfl

noncomputable def carStarRep : CARRep ℚ CARAlg where
  c i := RingQuot.mkAlgHom ℚ CARRel (fc i)
  cd i := RingQuot.mkAlgHom ℚ CARRel (fcd i)
  cc i j := by
    have := RingQuot.mkAlgHom_rel ℚ (CARRel.cc i j)
    simpa using this
  cdcd i j := by
    have := RingQuot.mkAlgHom_rel ℚ (CARRel.cdcd i j)
    simpa using this
  ccd i j := by
    have := RingQuot.mkAlgHom_rel ℚ (CARRel.ccd i j)
    by_cases h : i = j
    · simpa [h] using this
    · simpa [h] using this

theorem carStarRep_star (i : ℕ) : star (carStarRep.c i) = carStarRep.cd i := by
  show star (RingQuot.mkAlgHom ℚ CARRel (fc i)) = RingQuot.mkAlgHom ℚ CARRel (fcd i)
  rw [star_mk, star_fc]

section Universal
variable {A : Type} [Ring A] [Algebra ℚ A] (r : CARRep ℚ A)

noncomputable def repLift : FA →ₐ[ℚ] A :=
  FreeAlgebra.lift ℚ (fun g : Gen => if g.1 then r.c g.2 else r.cd g.2)

theorem repLift_fc (i : ℕ) : repLift r (fc i) = r.c i :=
  (FreeAlgebra.lift_ι_apply _ _).trans (if_pos rfl)

theorem repLift_fcd (i : ℕ) : repLift r (fcd i) = r.cd i :=
  (FreeAlgebra.lift_ι_apply _ _).trans (if_neg (by simp))

noncomputable def ofRep : CARAlg →ₐ[ℚ] A :=
  RingQuot.liftAlgHom ℚ
    ⟨repLift r, by
      intro a b h
      cases h with
      | cc i j =>
        simp only [map_add, map_mul, map_zero, repLift_fc]
        exact r.cc i j
      | cdcd i j =>
        simp only [map_add, map_mul, map_zero, repLift_fcd]
        exact r.cdcd i j
      | ccd i j =>
        simp only [map_add, map_mul, repLift_fc, repLift_fcd, r.ccd i j, apply_ite (repLift r),
          map_one, map_zero]⟩

end Universal

theorem carAlg_nontrivial : (1 : CARAlg) ≠ 0 := by
  intro h
  have h2 := congrArg (fun x => ofRep (jwRep ℚ) x (Finsupp.single 0 1) 0) h
  simp at h2

end StarModel

end Pomerol.Spec.PresetSem
