/-
  Block-wise diagonalisation reproduces the eigen-system of the full matrix (property C03).

  `B` = blocks (invariant subspaces), `m b` = states of block `b`; the full index type is
  `Σ b, m b`; a Hamiltonian without inter-block matrix elements is `blockDiagonal' Hb`.
-/
import Mathlib.Data.Matrix.Block
import Mathlib.Data.Complex.Basic
import Mathlib.LinearAlgebra.Matrix.Reindex
import Mathlib.LinearAlgebra.Matrix.NonsingularInverse
import Mathlib.LinearAlgebra.Matrix.Charpoly.Basic
import Mathlib.Algebra.Polynomial.Roots

namespace Pomerol.Spec
open Matrix Polynomial

variable {B : Type} [Fintype B] [DecidableEq B] {m : B → Type} [∀ b, Fintype (m b)]
  [∀ b, DecidableEq (m b)]

set_option linter.unusedSectionVars false

/-- per-block solver post-condition: U_b unitary and H_b U_b = U_b diag(E_b) -/
structure BlockEigen (Hb : ∀ b, Matrix (m b) (m b) ℂ) (U : ∀ b, Matrix (m b) (m b) ℂ)
    (E : ∀ b, m b → ℝ) : Prop where
  unitary : ∀ b, (U b)ᴴ * U b = 1
  eigen : ∀ b, Hb b * U b = U b * diagonal (fun i => (E b i : ℂ))

theorem block_unitary (U : ∀ b, Matrix (m b) (m b) ℂ) (hU : ∀ b, (U b)ᴴ * U b = 1) :
    (blockDiagonal' U)ᴴ * blockDiagonal' U = 1 ∧ blockDiagonal' U * (blockDiagonal' U)ᴴ = 1 := by
  have h1 : (blockDiagonal' U)ᴴ * blockDiagonal' U = 1 := by
    rw [blockDiagonal'_conjTranspose, ← blockDiagonal'_mul]
    have : (fun k => (U k)ᴴ * U k) = (1 : ∀ b, Matrix (m b) (m b) ℂ) := funext hU
    rw [this, blockDiagonal'_one]
  exact ⟨h1, mul_eq_one_comm.mp h1⟩

theorem block_eigen {Hb : ∀ b, Matrix (m b) (m b) ℂ} {U : ∀ b, Matrix (m b) (m b) ℂ}
    {E : ∀ b, m b → ℝ} (h : BlockEigen (m := m) Hb U E) :
    blockDiagonal' Hb * blockDiagonal' U
      = blockDiagonal' U * diagonal (fun k : Σ b, m b => (E k.1 k.2 : ℂ)) := by
  rw [← blockDiagonal'_mul, ← blockDiagonal'_diagonal (fun b i => (E b i : ℂ)),
    ← blockDiagonal'_mul]
  congr 1
  exact funext h.eigen

theorem block_similar {Hb : ∀ b, Matrix (m b) (m b) ℂ} {U : ∀ b, Matrix (m b) (m b) ℂ}
    {E : ∀ b, m b → ℝ} (h : BlockEigen (m := m) Hb U E) :
    blockDiagonal' Hb
      = blockDiagonal' U * diagonal (fun k : Σ b, m b => (E k.1 k.2 : ℂ)) * (blockDiagonal' U)ᴴ := by
  rw [← block_eigen h, Matrix.mul_assoc, (block_unitary U h.unitary).2, Matrix.mul_one]

theorem block_charpoly {Hb : ∀ b, Matrix (m b) (m b) ℂ} {U : ∀ b, Matrix (m b) (m b) ℂ}
    {E : ∀ b, m b → ℝ} (h : BlockEigen (m := m) Hb U E) :
    (blockDiagonal' Hb).charpoly = ∏ k : Σ b, m b, (X - C (E k.1 k.2 : ℂ)) := by
  obtain ⟨h1, h2⟩ := block_unitary U h.unitary
  let P : (Matrix (Σ b, m b) (Σ b, m b) ℂ)ˣ := ⟨blockDiagonal' U, (blockDiagonal' U)ᴴ, h2, h1⟩
  have hsim : blockDiagonal' Hb
      = P.val * diagonal (fun k : Σ b, m b => (E k.1 k.2 : ℂ)) * P.val⁻¹ := by
    rw [← Matrix.coe_units_inv]
    exact block_similar h
  rw [hsim, charpoly_units_conj, charpoly_diagonal]

theorem block_spectrum_roots {Hb : ∀ b, Matrix (m b) (m b) ℂ} {U : ∀ b, Matrix (m b) (m b) ℂ}
    {E : ∀ b, m b → ℝ} (h : BlockEigen (m := m) Hb U E) :
    (blockDiagonal' Hb).charpoly.roots
      = (Finset.univ : Finset (Σ b, m b)).val.map (fun k => (E k.1 k.2 : ℂ)) := by
  rw [block_charpoly h, Finset.prod_eq_multiset_prod]
  have := roots_multiset_prod_X_sub_C
    ((Finset.univ : Finset (Σ b, m b)).val.map (fun k => (E k.1 k.2 : ℂ)))
  rwa [Multiset.map_map] at this

theorem fock_charpoly {σ : Type} [Fintype σ] [DecidableEq σ] (e : σ ≃ Σ b, m b)
    (H : Matrix σ σ ℂ)
    {Hb : ∀ b, Matrix (m b) (m b) ℂ} {U : ∀ b, Matrix (m b) (m b) ℂ} {E : ∀ b, m b → ℝ}
    (h : BlockEigen (m := m) Hb U E)
    (hH : H = Matrix.reindex e.symm e.symm (blockDiagonal' Hb)) :
    H.charpoly = ∏ k : Σ b, m b, (X - C (E k.1 k.2 : ℂ)) := by
  rw [hH, charpoly_reindex, block_charpoly h]

/-- The conclusion regroups the two hypotheses.  That `computeGroundEnergy` returns the minimum over all blocks is
`C03.ground_energy_is_minimum_over_blocks`. -/
theorem ground_is_min [Nonempty (Σ b, m b)] (E : ∀ b, m b → ℝ) (g : ℝ)
    (hg : ∃ k : Σ b, m b, E k.1 k.2 = g) (hle : ∀ b i, g ≤ E b i) :
    ∀ k : Σ b, m b, g ≤ E k.1 k.2 ∧ ∃ k0 : Σ b, m b, E k0.1 k0.2 = g :=
  fun k => ⟨hle k.1 k.2, hg⟩

end Pomerol.Spec
