import PomerolModel.Model.DispatcherDedicated
import PomerolModel.Spec.DispatcherPool

/-
  Safety and liveness of the dispatcher model in its *dedicated master* use
  (`PomerolModel/Model/DispatcherDedicated.lean`).

  One inductive invariant `Inv N jobs s` (= `Core` + `fin = replicate N exited` + "an exited master is at
  position 0") holds for `init N jobs` and is preserved by every `step`; all theorems follow from it.
  `Core` is the invariant `Pool.Inv` of the worker pool (`Spec/DispatcherPool.lean`, where it is described and shown
  to be preserved by every operation on the pool), read for the pool of `N` workers all of which leave their loop as
  soon as they have received `Finish` (`core_iff`).  `Core` and `Phase` spell it out on the model's own state so that
  `Inv` and what is stated with it (`progress`, `reachable_inv`) can be read without the pool; the proofs reach the pool
  through `core_iff`.

  The proofs unfold the generated definitions `Gen.Disp.masterIsFinished` and `Gen.Disp.finishCondition`
  (lemmas `loopHead_eq`, `finishPhase_eq`): they depend on what the C++ source says.

  The end of the master's loop iteration is the model's total `loopHead (finishPhase ·)`, so `masterTail` is total
  here; in `Spec/DispatcherInv.lean` it is the partial `loopTail`, because there rank 0 looks up its own worker record.
-/

namespace Pomerol.Spec.DispD
open Pomerol.Model.DispD Pomerol.Spec.Sched
open Pomerol.Model.Disp (Msg Worker)
open Pomerol.Spec.Disp (wsum wW wF wD set_eq_self)

abbrev dn (s : SysD) (i : Nat) : List Msg := s.down[i]?.getD []
abbrev upc (s : SysD) (i : Nat) : Nat := s.up[i]?.getD 0
abbrev wt (s : SysD) (i : Nat) : Bool := s.m.wait[i]?.getD false

abbrev pool (s : SysD) : Pool := ⟨s.m.jobs, s.m.idle, s.m.wait, s.m.fin, s.m.dmap, s.ws, s.down, s.up, s.log⟩

def withPool (s : SysD) (p : Pool) : SysD :=
  { s with m := { s.m with jobs := p.jobs, idle := p.idle, wait := p.wait, fin := p.fin, dmap := p.dmap },
           ws := p.ws, down := p.down, up := p.up, log := p.log }

def collect (s : SysD) (k : Nat) : SysD := withPool s ((pool s).collect k)

def exitM (s : SysD) : SysD := { s with m := { s.m with exited := true, next := 0 } }

def setNext (s : SysD) (n : Nat) : SysD := { s with m := { s.m with next := n } }

theorem order_eq (s : SysD) : order s = withPool s (pool s).order := rfl

theorem finishPhase_eq (s : SysD) : finishPhase s = withPool s ((pool s).finishPhase s.N) := by
  rw [finishPhase, Pool.finishPhase, apply_ite (withPool s)]
  exact ite_congr (by simp [finishCond, Pomerol.Gen.Disp.finishCondition]) (fun _ => rfl) (fun _ => rfl)

theorem workerTest_eq (s : SysD) (r : Nat) (b : Bool) :
    workerTest s r b = ((pool s).workerTest r true b).map (withPool s) := by
  obtain ⟨N, m, ws, down, up, log⟩ := s
  unfold workerTest Pool.workerTest
  dsimp only [Pool.dn]
  cases hw : ws[r]? with
  | none => rfl
  | some w =>
    obtain ⟨st, cur, ex⟩ := w
    -- a worker that has left its loop or is not pending makes no step, in either model
    cases ex <;> cases st <;> try rfl
    cases b
    · simp [withPool, set_eq_self ws r _ hw]
    -- what is left: a worker in its loop sees the first message of its channel
    rw [List.getD_eq_getElem?_getD]
    cases hd : down[r]?.getD [] with
    | nil => rfl
    | cons m rest =>
      cases m with
      | work j => simp [Pool.doWork, withPool]
      | finish => simp [Pool.doFin, withPool]

theorem workerTest_some {s s' : SysD} {r : Nat} {b : Bool} (h : workerTest s r b = some s') :
    ∃ p', (pool s).workerTest r true b = some p' ∧ s' = withPool s p' := by
  rw [workerTest_eq, Option.map_eq_some_iff] at h
  obtain ⟨p', h1, h2⟩ := h
  exact ⟨p', h1, h2.symm⟩

/-- the five phases of a worker within a round: `Pool.Phase`, read with `lv := True` (`phase_iff`: a worker that has
received `Finish` has left its loop) -/
def Phase (b : Bool) (idl : Prop) (wt : Bool) (d : List Msg) (u : Nat) (w : Worker) : Prop :=
  (b = false ∧ idl ∧ wt = false ∧ d = [] ∧ u = 0 ∧ w.st = .pending ∧ w.exited = false) ∨
  (b = false ∧ ¬ idl ∧ wt = true ∧ (∃ j, d = [Msg.work j]) ∧ u = 0 ∧ w.st = .pending ∧ w.exited = false) ∨
  (b = false ∧ ¬ idl ∧ wt = true ∧ d = [] ∧ u = 1 ∧ w.st = .pending ∧ w.exited = false) ∨
  (b = true ∧ idl ∧ wt = false ∧ d = [Msg.finish] ∧ u = 0 ∧ w.st = .pending ∧ w.exited = false) ∨
  (b = true ∧ idl ∧ wt = false ∧ d = [] ∧ u = 0 ∧ w.st = .finish ∧ w.exited = true)

/-- the part of the invariant that does not mention `next`/`exited` -/
structure Core (N : Nat) (jobs : List Nat) (s : SysD) : Prop where
  hN : s.N = N
  lw : s.m.wait.length = N
  lws : s.ws.length = N
  ld : s.down.length = N
  lu : s.up.length = N
  idl_lt : ∀ i ∈ s.m.idle, i < N
  idl_nd : s.m.idle.Nodup
  cnt : s.m.idle.length + s.m.wait.count true = N
  K : (s.m.dmap.map (·.1)).reverse ++ s.m.jobs = jobs
  L1 : ∀ x ∈ s.log, x ∈ s.m.dmap
  L2 : (s.log.map (·.1)).Nodup
  D1 : ∀ j i, (j, i) ∈ s.m.dmap → i < N ∧ (dn s i = [Msg.work j] ∨ (j, i) ∈ s.log)
  D2 : ∀ i j, dn s i = [Msg.work j] → (j, i) ∈ s.m.dmap ∧ j ∉ s.log.map (·.1)
  ph : ∃ b, s.m.fin = List.replicate N b ∧ (b = true → s.m.jobs = []) ∧
        ∀ i, i < N → ∃ w, s.ws[i]? = some w ∧ Phase b (i ∈ s.m.idle) (wt s i) (dn s i) (upc s i) w

theorem phase_iff (b : Bool) (idl : Prop) (wt : Bool) (d : List Msg) (u : Nat) (w : Worker) :
    Phase b idl wt d u w ↔ Pool.Phase True b idl wt d u w := by
  simp only [Phase, Pool.Phase, true_imp_iff]

theorem core_iff (N : Nat) (jobs : List Nat) (s : SysD) :
    Core N jobs s ↔ s.N = N ∧ Pool.Inv (fun _ => True) N jobs (pool s) := by
  constructor
  · intro h
    have hph := h.ph
    simp only [phase_iff] at hph
    exact ⟨h.hN, h.lw, h.lws, h.ld, h.lu, h.idl_lt, h.idl_nd, h.cnt, h.K, h.L1, h.L2, h.D1, h.D2, hph⟩
  · rintro ⟨hN, h⟩
    have hph := h.ph
    simp only [← phase_iff] at hph
    exact ⟨hN, h.lw, h.lws, h.ld, h.lu, h.idl_lt, h.idl_nd, h.cnt, h.K, h.L1, h.L2, h.D1, h.D2, hph⟩

theorem Core.pool {N : Nat} {jobs : List Nat} {s : SysD} (h : Core N jobs s) :
    Pool.Inv (fun _ => True) N jobs (pool s) :=
  ((core_iff N jobs s).1 h).2

theorem core_withPool {N : Nat} {jobs : List Nat} {s : SysD} {p : Pool} (hN : s.N = N)
    (h : Pool.Inv (fun _ => True) N jobs p) : Core N jobs (withPool s p) :=
  (core_iff N jobs _).2 ⟨hN, h⟩

theorem core_congr {N : Nat} {jobs : List Nat} {s s' : SysD} (h : Core N jobs s) (hN : s'.N = s.N)
    (hp : pool s' = pool s) : Core N jobs s' :=
  (core_iff N jobs s').2 ⟨hN.trans h.hN, hp ▸ h.pool⟩

/-- the loop condition as the source has it: all `workers_finish` flags are set -/
theorem loopHead_eq (s : SysD) :
    loopHead s = if s.m.fin.count true = s.N then exitM s else order (setNext s 0) := by
  simp only [loopHead, isFinished, nFinished, Pomerol.Gen.Disp.masterIsFinished, exitM, setNext,
    Int.natCast_inj, decide_eq_true_eq]

/-- the end of a `check_workers` test: advance, or finish the loop iteration -/
def masterTail (s s1 : SysD) : SysD :=
  if s.m.next + 1 < s.N then setNext s1 (s.m.next + 1) else loopHead (finishPhase s1)

theorem masterTest_false_eq (s : SysD) (he : s.m.exited = false) : masterTest s false = some (masterTail s s) := by
  by_cases h : s.m.next + 1 < s.N <;> simp [masterTest, masterTail, setNext, he, h]

theorem masterTest_true_eq (s : SysD) (he : s.m.exited = false) : masterTest s true =
    if wt s s.m.next = true ∧ 0 < upc s s.m.next then some (masterTail s (collect s s.m.next)) else none := by
  by_cases h : (s.m.wait[s.m.next]?.getD false = true ∧ 0 < s.up[s.m.next]?.getD 0)
  · simp [masterTest, masterTail, apply_ite some, setNext, collect, withPool, pool, Pool.collect, wt, upc, he, h]
  · simp [masterTest, wt, upc, he, h]

theorem masterTest_not_exited (s s' : SysD) (b : Bool) (h : masterTest s b = some s') : s.m.exited = false := by
  cases he : s.m.exited
  · rfl
  · simp [masterTest, he] at h

/-- the inductive invariant: `Core`, the `workers_finish` flags are all set exactly when the master has left its
loop, and a master that has left stands at position 0 -/
def Inv (N : Nat) (jobs : List Nat) (s : SysD) : Prop :=
  Core N jobs s ∧ s.m.fin = List.replicate N s.m.exited ∧ (s.m.exited = true → s.m.next = 0)

theorem inv_setNext {N : Nat} {jobs : List Nat} {s : SysD} (h : Inv N jobs s) (hex : s.m.exited = false) (n : Nat) :
    Inv N jobs (setNext s n) :=
  ⟨core_congr h.1 rfl rfl, h.2.1, fun hc => nomatch hex.symm.trans hc⟩

theorem loopHead_inv (N : Nat) (jobs : List Nat) (hN : 0 < N) (hnd : jobs.Nodup) (s : SysD) (h : Core N jobs s)
    (b : Bool) (hfin : s.m.fin = List.replicate N b) (hex : s.m.exited = false) : Inv N jobs (loopHead s) := by
  rw [loopHead_eq, hfin, h.hN, List.count_replicate]
  cases b
  · have : ¬ (0 = N) := Nat.ne_of_lt hN
    simp only [Bool.false_eq_true, beq_iff_eq, if_false, this]
    rw [order_eq]
    refine ⟨core_withPool h.hN (h.pool.order hnd), ?_, ?_⟩
    · show s.m.fin = List.replicate N s.m.exited; rw [hfin, hex]
    · exact fun hc => nomatch hex.symm.trans hc
  · simp only [beq_self_eq_true, if_true]
    exact ⟨core_congr h rfl rfl, hfin, fun _ => rfl⟩

theorem masterTail_inv (N : Nat) (jobs : List Nat) (hN : 0 < N) (hnd : jobs.Nodup) (s s1 : SysD)
    (h : Core N jobs s1) (hfin : s1.m.fin = List.replicate N false) (hex : s1.m.exited = false) :
    Inv N jobs (masterTail s s1) := by
  unfold masterTail
  split
  · exact ⟨core_congr h rfl rfl, by show s1.m.fin = List.replicate N s1.m.exited; rw [hfin, hex],
      fun hc => nomatch hex.symm.trans hc⟩
  · -- after the Finish phase the flags are constant again, as `Pool.Inv` says
    have hq := h.pool.finishPhase
    obtain ⟨b, hb, _⟩ := hq.ph
    rw [finishPhase_eq, h.hN]
    exact loopHead_inv N jobs hN hnd _ (core_withPool h.hN hq) b hb hex

theorem step_inv (N : Nat) (jobs : List Nat) (hN : 0 < N) (hnd : jobs.Nodup) (s s' : SysD) (r : Nat) (b : Bool)
    (h : Inv N jobs s) (hs : step s r b = some s') : Inv N jobs s' := by
  obtain ⟨hc, hfin, hn0⟩ := h
  unfold step at hs
  by_cases hr : r = 0
  · subst hr
    simp only [if_true] at hs
    have hex := masterTest_not_exited s s' b hs
    rw [hex] at hfin
    cases b
    · rw [masterTest_false_eq s hex] at hs
      cases hs
      exact masterTail_inv N jobs hN hnd s s hc hfin hex
    · rw [masterTest_true_eq s hex] at hs
      split at hs
      · rename_i hk
        cases hs
        exact masterTail_inv N jobs hN hnd s _ (core_withPool hc.hN (hc.pool.collect hk.1 hk.2)) hfin hex
      · cases hs
  · simp only [hr, if_false] at hs
    obtain ⟨p', hp', rfl⟩ := workerTest_some hs
    refine ⟨core_withPool hc.hN (hc.pool.workerTest hnd (fun _ => rfl) hp'), ?_, hn0⟩
    show p'.fin = _
    rw [(Pool.workerTest_frame hp').1]; exact hfin

theorem init_inv (N : Nat) (jobs : List Nat) (hN : 0 < N) (hnd : jobs.Nodup) : Inv N jobs (init N jobs) :=
  loopHead_inv N jobs hN hnd (init0 N jobs) (core_withPool (s := init0 N jobs) rfl (Pool.Inv.init _ N jobs))
    false rfl rfl

theorem reach_iff (s s' : SysD) : Reach step s s' ↔ ∃ sched, run s sched = some s' :=
  reach_iff_run run (fun _ => rfl) (fun s r b rest => by rw [run]; cases step s r b <;> rfl) s s'

/-- states reachable in a round with `N` workers and the given job order, under ANY schedule (any interleaving of
the ranks and any message delays) -/
def Reachable (N : Nat) (jobs : List Nat) (s : SysD) : Prop := ∃ sched, run (init N jobs) sched = some s

theorem reachable_inv (N : Nat) (jobs : List Nat) (hN : 0 < N) (hnd : jobs.Nodup) (s : SysD)
    (h : Reachable N jobs s) : Inv N jobs s :=
  ((reach_iff _ _).2 h).inv (fun s s' r b => step_inv N jobs hN hnd s s' r b) (init_inv N jobs hN hnd)

theorem reachable_pool (N : Nat) (jobs : List Nat) (hN : 0 < N) (hnd : jobs.Nodup) (s : SysD)
    (h : Reachable N jobs s) : Pool.Inv (fun _ => True) N jobs (pool s) :=
  (reachable_inv N jobs hN hnd s h).1.pool

theorem all_exited {s : SysD} (hf : allExited s = true) : ∀ w ∈ (pool s).ws, w.exited = true := by
  simp only [allExited, Bool.and_eq_true, List.all_eq_true] at hf
  exact hf.2

/-- weight of the master: 1 as long as it is in its loop -/
def wM (b : Bool) : Nat := if b then 0 else 1

/-- LIVENESS: a progress measure, `Pool.measure` of the pool (the weights are explained there) plus 1 for a master still
in its loop (`measure_eq`). -/
def measure (s : SysD) : Nat :=
  3 * s.m.jobs.length + wsum wD s.down + wsum id s.up + wsum wW s.ws + wsum wF s.m.fin + wM s.m.exited

theorem measure_eq (s : SysD) : measure s = (pool s).measure + wM s.m.exited := rfl
theorem measure_withPool (s : SysD) (p : Pool) : measure (withPool s p) = p.measure + wM s.m.exited := rfl
theorem measure_setNext (s : SysD) (n : Nat) : measure (setNext s n) = measure s := rfl

theorem measure_exitM_lt (s : SysD) (he : s.m.exited = false) : measure (exitM s) < measure s := by
  simp [measure, exitM, wM, he]

theorem measure_finishPhase_le (s : SysD) : measure (finishPhase s) ≤ measure s := by
  rw [finishPhase_eq, measure_withPool, measure_eq]
  exact Nat.add_le_add_right (Pool.measure_finishPhase_le _ _) _

theorem measure_loopHead_le (s : SysD) : measure (loopHead s) ≤ measure s := by
  rw [loopHead_eq]
  split
  · simp only [measure, exitM, wM]
    cases s.m.exited <;> simp
  · rw [order_eq, measure_withPool, measure_eq]
    exact Nat.add_le_add_right (Pool.measure_order_le _) _

theorem measure_workerTest (s s' : SysD) (r : Nat) (b : Bool) (hs : workerTest s r b = some s') :
    measure s' ≤ measure s ∧ (b = true → measure s' < measure s) := by
  obtain ⟨p', hp', rfl⟩ := workerTest_some hs
  rw [measure_withPool, measure_eq]
  have := Pool.measure_workerTest hp'
  exact ⟨Nat.add_le_add_right this.1 _, fun hb => Nat.add_lt_add_right (this.2 hb) _⟩

theorem measure_masterTail (s s1 : SysD) : measure (masterTail s s1) ≤ measure s1 := by
  unfold masterTail
  split
  · exact Nat.le_refl _
  · exact Nat.le_trans (measure_loopHead_le _) (measure_finishPhase_le s1)

theorem measure_masterTest (s s' : SysD) (b : Bool) (hs : masterTest s b = some s') :
    measure s' ≤ measure s ∧ (b = true → measure s' < measure s) := by
  have hex := masterTest_not_exited s s' b hs
  cases b
  · rw [masterTest_false_eq s hex] at hs
    cases hs
    exact ⟨measure_masterTail s s, fun h => by simp at h⟩
  · rw [masterTest_true_eq s hex] at hs
    split at hs
    · rename_i hk
      cases hs
      have h1 := measure_masterTail s (collect s s.m.next)
      have h2 : measure (collect s s.m.next) < measure s := by
        rw [collect, measure_withPool, measure_eq]
        exact Nat.add_lt_add_right (Pool.measure_collect (pool s) _ hk.2) _
      have := Nat.lt_of_le_of_lt h1 h2
      exact ⟨Nat.le_of_lt this, fun _ => this⟩
    · cases hs

theorem measure_step (s s' : SysD) (r : Nat) (b : Bool) (hs : step s r b = some s') :
    measure s' ≤ measure s ∧ (b = true → measure s' < measure s) := by
  unfold step at hs
  by_cases hr : r = 0
  · subst hr
    simp only [if_true] at hs
    exact measure_masterTest s s' b hs
  · simp only [hr, if_false] at hs
    exact measure_workerTest s s' (r - 1) b hs

theorem step_master (s : SysD) (b : Bool) : step s 0 b = masterTest s b := by
  simp [step]

theorem step_worker (s : SysD) (i : Nat) (b : Bool) : step s (i + 1) b = workerTest s i b := by
  simp [step]

theorem loopHead_next (s : SysD) : (loopHead s).m.next = 0 := by
  rw [loopHead_eq]
  split <;> rfl

theorem advance {N : Nat} {s : SysD} (hN : s.N = N) (hex : s.m.exited = false) {t : Nat} (ht : s.m.next ≤ t)
    (htN : t < N) : Reach step s (setNext s t) := by
  induction ht with
  | refl => exact .refl s
  | @step t ht ih =>
    have hstep : step (setNext s t) 0 false = some (setNext s (t + 1)) := by
      rw [step_master, masterTest_false_eq (setNext s t) hex, masterTail, if_pos (hN ▸ htN)]
      rfl
    exact (ih (Nat.lt_of_succ_lt htN)).trans (.single hstep)

theorem end_iteration (N : Nat) (jobs : List Nat) (hN : 0 < N) (hnd : jobs.Nodup) (s : SysD) (h : Inv N jobs s)
    (hex : s.m.exited = false) :
    Reach step s (loopHead (finishPhase s)) ∧ Inv N jobs (loopHead (finishPhase s)) := by
  obtain ⟨t, hadv, hlt⟩ : ∃ t, Reach step s (setNext s t) ∧ ¬ t + 1 < N := by
    by_cases hl : s.m.next + 1 < N
    · have hle : s.m.next ≤ N - 1 := Nat.le_sub_one_of_lt (Nat.lt_of_succ_lt hl)
      have hN1 : N - 1 + 1 = N := Nat.sub_add_cancel hN
      exact ⟨N - 1, advance h.1.hN hex hle (Nat.sub_one_lt_of_lt hN),
        hN1 ▸ Nat.lt_irrefl N⟩
    · exact ⟨s.m.next, .refl s, hl⟩
  have hstep : step (setNext s t) 0 false = some (loopHead (finishPhase s)) := by
    rw [step_master, masterTest_false_eq (setNext s t) hex, masterTail,
      if_neg (by show ¬ t + 1 < s.N; rw [h.1.hN]; exact hlt), finishPhase_eq, finishPhase_eq s]
    rfl
  exact ⟨hadv.trans (.single hstep), step_inv N jobs hN hnd _ _ _ _ (inv_setNext h hex t) hstep⟩

theorem to_next0 (N : Nat) (jobs : List Nat) (hN : 0 < N) (hnd : jobs.Nodup) (s : SysD) (h : Inv N jobs s) :
    ∃ s', Reach step s s' ∧ Inv N jobs s' ∧ s'.m.next = 0 ∧ measure s' ≤ measure s := by
  by_cases h0 : s.m.next = 0
  · exact ⟨s, .refl s, h, h0, Nat.le_refl _⟩
  have hex : s.m.exited = false := by
    cases he : s.m.exited
    · rfl
    · exact absurd (h.2.2 he) h0
  obtain ⟨hr, hi⟩ := end_iteration N jobs hN hnd s h hex
  exact ⟨_, hr, hi, loopHead_next _, Nat.le_trans (measure_loopHead_le _) (measure_finishPhase_le s)⟩

theorem quiet_end (N : Nat) (jobs : List Nat) (hN : 0 < N) (s : SysD) (h : Inv N jobs s)
    (hex : s.m.exited = false) (hwt : ∀ i, i < N → wt s i = false) :
    measure (loopHead (finishPhase s)) < measure s := by
  have hfin : s.m.fin = List.replicate N false := by rw [h.2.1, hex]
  rcases h.1.pool.quiet_progress hN hwt hfin with hlt | ⟨heq, hlt⟩
  · refine Nat.lt_of_le_of_lt (measure_loopHead_le _) ?_
    rw [finishPhase_eq, measure_withPool, measure_eq, h.1.hN]
    exact Nat.add_lt_add_right hlt _
  · have hfp : finishPhase s = s := by rw [finishPhase_eq, h.1.hN, heq]; rfl
    rw [hfp, loopHead_eq, hfin, List.count_replicate, h.1.hN]
    have : ¬ (0 = N) := Nat.ne_of_lt hN
    simp only [Bool.false_eq_true, beq_iff_eq, if_false, this]
    rw [order_eq, measure_withPool, measure_eq]
    exact Nat.add_lt_add_right hlt _

theorem poll_progress (N : Nat) (jobs : List Nat) (hN : 0 < N) (hnd : jobs.Nodup) (s : SysD) (h : Inv N jobs s)
    (h0 : s.m.next = 0) (hex : s.m.exited = false) (hdn : ∀ i, i < N → dn s i = []) :
    ∃ s', Reach step s s' ∧ Inv N jobs s' ∧ s'.m.next = 0 ∧ measure s' < measure s := by
  -- The schedule is ours to choose, and a failed `test()` is always a legal step.  Either some worker the master
  -- waits for has its token in flight: fail all polls before that worker, then receive the token.  Or nobody is
  -- waited for: fail all polls, and the end of the iteration makes progress.
  by_cases hc : ∃ k, k < N ∧ wt s k = true ∧ 0 < upc s k
  · obtain ⟨k, hk, hwk, huk⟩ := hc
    have hstep : step (setNext s k) 0 true = some (masterTail (setNext s k) (collect (setNext s k) k)) := by
      rw [step_master, masterTest_true_eq (setNext s k) hex]; exact if_pos ⟨hwk, huk⟩
    obtain ⟨s', hr, hi, hn, hm⟩ := to_next0 N jobs hN hnd _
      (step_inv N jobs hN hnd _ _ _ _ (inv_setNext h hex k) hstep)
    have hm1 := (measure_step _ _ _ _ hstep).2 rfl
    rw [measure_setNext] at hm1
    exact ⟨s', ((advance h.1.hN hex (h0 ▸ Nat.zero_le k) hk).trans (.single hstep)).trans hr, hi, hn,
      Nat.lt_of_le_of_lt hm hm1⟩
  · obtain ⟨hr, hi⟩ := end_iteration N jobs hN hnd s h hex
    exact ⟨_, hr, hi, loopHead_next _, quiet_end N jobs hN s h hex (h.1.pool.not_waited hdn hc)⟩

theorem progress (N : Nat) (jobs : List Nat) (hN : 0 < N) (hnd : jobs.Nodup) (s : SysD) (h : Inv N jobs s)
    (h0 : s.m.next = 0) (hne : allExited s = false) :
    ∃ sched s', run s sched = some s' ∧ Inv N jobs s' ∧ s'.m.next = 0 ∧ measure s' < measure s := by
  suffices hr : ∃ s', Reach step s s' ∧ Inv N jobs s' ∧ s'.m.next = 0 ∧ measure s' < measure s by
    obtain ⟨s', hr, hrest⟩ := hr
    obtain ⟨sched, hs⟩ := (reach_iff _ _).1 hr
    exact ⟨sched, s', hs, hrest⟩
  by_cases hex : ∃ i, i < N ∧ dn s i ≠ []
  · -- a message is in flight: its addressee receives it
    obtain ⟨i, hiN, hd⟩ := hex
    obtain ⟨p', hp'⟩ := h.1.pool.can_receive hiN true hd
    have hstep : step s (i + 1) true = some (withPool s p') := by
      rw [step_worker s i true, workerTest_eq, hp']; rfl
    exact ⟨_, .single hstep, step_inv N jobs hN hnd _ _ _ _ h hstep, h0, (measure_step _ _ _ _ hstep).2 rfl⟩
  · have hquiet : ∀ i, i < N → dn s i = [] := fun i hiN =>
      Classical.byContradiction fun hc => hex ⟨i, hiN, hc⟩
    cases hme : s.m.exited
    · exact poll_progress N jobs hN hnd s h h0 hme hquiet
    · -- the master is gone and all channels are empty: every worker is gone, too
      exfalso
      obtain ⟨b, hfin, _, hph⟩ := h.1.pool.ph
      -- `Inv`: the flags are constantly the master's `exited`
      obtain rfl : b = true :=
        (List.replicate_inj.1 (hfin.symm.trans (hme ▸ h.2.1))).2.resolve_left (Nat.ne_of_gt hN)
      have : allExited s = true := by
        simp only [allExited, Bool.and_eq_true, List.all_eq_true]
        refine ⟨hme, ?_⟩
        intro w hw
        obtain ⟨i, hi⟩ := List.mem_iff_getElem?.1 hw
        exact h.1.pool.gone_of_quiet hph hquiet hi trivial
      rw [this] at hne; cases hne

end Pomerol.Spec.DispD
