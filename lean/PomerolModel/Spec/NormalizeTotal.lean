/-
  The fuelled bubble-sort normal ordering `normalizeAux` / `normalizeInsert` of `Model/Operator.lean`
  never runs out of fuel and produces normal monomials only.  Core Lean only.

  Termination: `normalizeAux fuel m` succeeds when `inversions m + m.length + 1 ≤ fuel`.  Every recursive
  call has one unit of fuel less and a measure at least one smaller: a swap removes exactly one inversion
  (`inversions_swap`); a contraction recurses on a sublist two factors shorter, with no more inversions
  (`inversions_sublist`); the sweep is repeated only after it has reported a swap, on a monomial of the
  same length with fewer inversions (`PassOK`).  `inversions m ≤ m.length ^ 2` (`inversions_le_sq`) is
  where the constant of `normalizeFuel` comes from.
-/
import PomerolModel.Model.Operator
namespace Pomerol.Spec
open Pomerol.Model

set_option linter.unusedSectionVars false

theorem opLt_asymm {a b : Op} (h : a.lt b = true) : b.lt a = false := by
  cases a with | mk aa ai => cases b with | mk ba bi =>
  cases aa <;> cases ba <;> simp [Op.lt] at h ⊢ <;> omega

theorem opLt_total {a b : Op} (h1 : a ≠ b) (h2 : b.lt a = false) : a.lt b = true := by
  cases a with | mk aa ai => cases b with | mk ba bi =>
  cases aa <;> cases ba <;> simp [Op.lt] at h1 h2 ⊢ <;> omega

def inversions : Mono → Nat
  | [] => 0
  | a :: l => l.countP (fun b => b.lt a) + inversions l

theorem inversions_sublist {l1 l2 : Mono} (h : l1.Sublist l2) : inversions l1 ≤ inversions l2 := by
  induction h with
  | slnil => exact Nat.le_refl _
  | cons a _ ih => exact Nat.le_trans ih (Nat.le_add_left _ _)
  | cons_cons a hs ih => exact Nat.add_le_add (hs.countP_le (p := fun b => b.lt a)) ih

theorem inversions_swap {a b : Op} (hba : b.lt a = true) (l1 l2 : Mono) :
    inversions (l1 ++ b :: a :: l2) + 1 = inversions (l1 ++ a :: b :: l2) := by
  induction l1 with
  | nil =>
    have hab := opLt_asymm hba
    simp only [List.nil_append, inversions, List.countP_cons, hba, hab]
    simp
    omega
  | cons x l1 ih =>
    simp only [List.cons_append, inversions, List.countP_append, List.countP_cons]
    omega

theorem inversions_le_sq (l : Mono) : inversions l ≤ l.length * l.length := by
  induction l with
  | nil => simp [inversions]
  | cons a l ih =>
    simp only [inversions, List.length_cons]
    have h1 : l.countP (fun b => b.lt a) ≤ l.length := List.countP_le_length
    have h2 := Nat.add_one_mul_add_one l.length l.length
    omega

section
variable {K : Type} [Add K] [Sub K] [Mul K] [Neg K] [Zero K] [One K] [CoefTest K]

/-- What a sweep started on working monomial `W` with flag `sw` may return.  The last conjunct carries
the termination argument: `normalizeAux` starts the sweep with `sw = false`, so a reported swap means
that an inversion has gone. -/
def PassOK (W : Mono) (sw : Bool) : Pass K → Prop
  | .oof => False
  | .zero _ => True
  | .done m' _ sw' _ =>
    m'.length = W.length ∧ inversions m' ≤ inversions W ∧
      (sw' = true → sw = true ∨ inversions m' < inversions W)

theorem PassOK.weaken {W' W : Mono} {sw : Bool} {r : Pass K} (h : PassOK W' true r)
    (hl : W'.length = W.length) (hi : inversions W' < inversions W) : PassOK W sw r := by
  cases r with
  | oof => exact h
  | zero _ => trivial
  | done m' c' sw' t =>
    obtain ⟨h1, h2, _⟩ := h
    exact ⟨h1.trans hl, by omega, fun _ => Or.inr (by omega)⟩

theorem passGo_term (rec : Mono → K → Poly K → Option (Poly K)) (fuel : Nat)
    (hrec : ∀ m c t, inversions m + m.length + 1 ≤ fuel → (rec m c t).isSome)
    (pre : List Op) (prev : Op) (rest : List Op) (coeff : K) (sw : Bool) (tgt : Poly K) :
    inversions (pre.reverse ++ prev :: rest) + (pre.reverse ++ prev :: rest).length ≤ fuel + 1 →
      PassOK (pre.reverse ++ prev :: rest) sw (passGo rec pre prev rest coeff sw tgt) := by
  fun_induction passGo rec pre prev rest coeff sw tgt with
  | case1 => intro _; simp [PassOK]
  | case2 => intro _; trivial
  | case3 pre prev cur rest coeff sw tgt h1 h2 tgt' ht =>
    -- the contraction is a sublist of the working monomial, two shorter: the fuel suffices
    intro hf
    dsimp only [tgt'] at ht
    split at ht
    · have hsub : (pre.reverse ++ rest).Sublist (pre.reverse ++ prev :: cur :: rest) :=
        List.Sublist.append_left ((List.Sublist.refl rest).cons _ |>.cons _) _
      have hi := inversions_sublist hsub
      have hl : (pre.reverse ++ prev :: cur :: rest).length = (pre.reverse ++ rest).length + 2 := by
        simp; omega
      have hs := hrec (pre.reverse ++ rest) coeff tgt (by omega)
      rw [ht] at hs
      cases hs
    · cases ht
  | case4 pre prev cur rest coeff sw tgt h1 h2 tgt' t ht ih =>
    -- a swap removes one inversion
    intro hf
    have hinv := inversions_swap h2 pre.reverse rest
    have hW' : (cur :: pre).reverse ++ prev :: rest = pre.reverse ++ cur :: prev :: rest := by
      simp
    rw [hW'] at ih
    exact (ih (by simp at hf ⊢; omega)).weaken (by simp) (Nat.lt_of_lt_of_eq (Nat.lt_succ_self _) hinv)
  | case5 pre prev cur rest coeff sw tgt h1 h2 ih =>
    intro hf
    simpa using ih (by simpa using hf)

theorem normalizeAux_isSome_of_fuel : ∀ (fuel : Nat) (m : Mono) (c : K) (tgt : Poly K),
    inversions m + m.length + 1 ≤ fuel → (normalizeAux fuel m c tgt).isSome := by
  intro fuel
  induction fuel with
  | zero => intro m c tgt h; omega
  | succ fuel ih =>
    intro m c tgt h
    match m, h with
    | [], _ => simp [normalizeAux]
    | [a], _ => simp [normalizeAux]
    | a :: b :: rest, h =>
      have hp := passGo_term (normalizeAux fuel) fuel (fun m c t hm => ih m c t hm)
        [] a (b :: rest) c false tgt (Nat.le_succ_of_le (Nat.le_of_succ_le_succ h))
      simp only [normalizeAux]
      generalize passGo (normalizeAux fuel) [] a (b :: rest) c false tgt = r at hp
      cases r with
      | oof => exact hp.elim
      | zero t => simp
      | done m' c' sw t =>
        cases sw with
        | false => simp
        | true =>
          simp only [if_true]
          obtain ⟨h1, h2, h3⟩ := hp
          have h3 := h3 rfl
          simp only [List.reverse_nil, List.nil_append] at h1 h2 h3
          apply ih
          rcases h3 with h3 | h3
          · cases h3
          · omega

theorem normalizeInsert_isSome (m : Mono) (c : K) (tgt : Poly K) : (normalizeInsert m c tgt).isSome := by
  unfold normalizeInsert normalizeFuel
  apply normalizeAux_isSome_of_fuel
  have h1 := inversions_le_sq m
  have h2 := Nat.add_one_mul_add_one m.length m.length
  omega

theorem passGo_mono (rec1 rec2 : Mono → K → Poly K → Option (Poly K))
    (h : ∀ m c tgt t, rec1 m c tgt = some t → rec2 m c tgt = some t)
    (pre : List Op) (prev : Op) (rest : List Op) (coeff : K) (sw : Bool) (tgt : Poly K) :
    passGo rec1 pre prev rest coeff sw tgt ≠ .oof →
      passGo rec2 pre prev rest coeff sw tgt = passGo rec1 pre prev rest coeff sw tgt := by
  fun_induction passGo rec1 pre prev rest coeff sw tgt with
  | case1 => intro _; rfl
  | case2 => intro _; simp [passGo]
  | case3 => intro hne; exact absurd rfl hne
  | case4 pre prev cur rest coeff sw tgt h1 h2 tgt' t ht ih =>
    intro hne
    have ht2 : (if prev = cur.flip then rec2 (pre.reverse ++ rest) coeff tgt else some tgt)
        = some t := by
      dsimp only [tgt'] at ht
      split at ht
      · next h3 => rw [if_pos h3]; exact h _ _ _ _ ht
      · next h3 => rw [if_neg h3]; exact ht
    rw [passGo, if_neg h1, if_pos h2]
    simp only [ht2]
    exact ih hne
  | case5 pre prev cur rest coeff sw tgt h1 h2 ih =>
    intro hne
    rw [passGo, if_neg h1, if_neg h2]
    exact ih hne

theorem normalizeAux_mono_fuel (f1 f2 : Nat) (h : f1 ≤ f2) (m : Mono) (c : K) (tgt t : Poly K)
    (h1 : normalizeAux f1 m c tgt = some t) : normalizeAux f2 m c tgt = some t := by
  induction f1 generalizing f2 m c tgt t with
  | zero => simp [normalizeAux] at h1
  | succ f1 ih =>
    obtain ⟨f2, rfl⟩ := Nat.exists_eq_add_one.mpr (Nat.zero_lt_of_lt h)
    have hle : f1 ≤ f2 := Nat.le_of_succ_le_succ h
    match m, h1 with
    | [], h1 => simpa [normalizeAux] using h1
    | [a], h1 => simpa [normalizeAux] using h1
    | a :: b :: rest, h1 =>
      have key := passGo_mono (normalizeAux f1) (normalizeAux f2)
        (fun m c tgt t hh => ih f2 hle m c tgt t hh) [] a (b :: rest) c false tgt
      simp only [normalizeAux] at h1 ⊢
      generalize passGo (normalizeAux f1) [] a (b :: rest) c false tgt = r at h1 key
      cases r with
      | oof => simp at h1
      | zero t' => rw [key (by simp)]; exact h1
      | done m' c' sw t' =>
        rw [key (by simp)]
        cases sw with
        | false => exact h1
        | true =>
          simp only [if_true] at h1 ⊢
          exact ih f2 hle _ _ _ _ h1

end

/-- a monomial is in normal form: strictly increasing w.r.t. `Op.lt` (all creators, by increasing index, then all annihilators by increasing index) -/
def NormalMono : Mono → Prop
  | [] => True
  | [_] => True
  | a :: b :: rest => a.lt b = true ∧ NormalMono (b :: rest)

def NormalPoly {K : Type} (p : Poly K) : Prop := ∀ mc ∈ p, NormalMono mc.1

theorem normalMono_snoc : ∀ (l : List Op) (a b : Op),
    NormalMono (l ++ [a]) → a.lt b = true → NormalMono (l ++ [a, b])
  | [], a, b, _, hab => by simpa [NormalMono] using hab
  | [x], a, b, h, hab => by
    simp only [List.cons_append, List.nil_append, NormalMono] at h ⊢
    exact ⟨h.1, hab, trivial⟩
  | x :: y :: l, a, b, h, hab => by
    simp only [List.cons_append, NormalMono] at h ⊢
    exact ⟨h.1, normalMono_snoc (y :: l) a b h.2 hab⟩

section
variable {K : Type} [Add K] [Sub K] [Mul K] [Neg K] [Zero K] [One K] [CoefTest K]

theorem normalPoly_cons {mc : Mono × K} {p : Poly K} :
    NormalPoly (mc :: p) ↔ NormalMono mc.1 ∧ NormalPoly p := by
  simp only [NormalPoly, List.mem_cons, forall_eq_or_imp]

theorem insertAdd_normal (m : Mono) (c : K) (hm : NormalMono m) (p : Poly K) (hp : NormalPoly p) :
    NormalPoly (Poly.insertAdd m c p) := by
  induction p with
  | nil => exact normalPoly_cons.2 ⟨hm, hp⟩
  | cons x p ih =>
    obtain ⟨hx, hp'⟩ := normalPoly_cons.1 hp
    unfold Poly.insertAdd
    split
    · dsimp only
      split
      · exact hp'
      · exact normalPoly_cons.2 ⟨hx, hp'⟩
    · split
      · exact normalPoly_cons.2 ⟨hm, hp⟩
      · exact normalPoly_cons.2 ⟨hx, ih hp'⟩

def PassNormal : Pass K → Prop
  | .oof => True
  | .zero t => NormalPoly t
  | .done m' _ sw' t => NormalPoly t ∧ (sw' = false → NormalMono m')

theorem passGo_normal (rec : Mono → K → Poly K → Option (Poly K))
    (hrec : ∀ m c tgt t, NormalPoly tgt → rec m c tgt = some t → NormalPoly t)
    (pre : List Op) (prev : Op) (rest : List Op) (coeff : K) (sw : Bool) (tgt : Poly K) :
    NormalPoly tgt → (sw = false → NormalMono (pre.reverse ++ [prev])) →
      PassNormal (passGo rec pre prev rest coeff sw tgt) := by
  fun_induction passGo rec pre prev rest coeff sw tgt with
  | case1 pre prev coeff sw tgt => intro ht hn; exact ⟨ht, by simpa using hn⟩
  | case2 => intro ht _; exact ht
  | case3 => intro _ _; trivial
  | case4 pre prev cur rest coeff sw tgt h1 h2 tgt' t ht ih =>
    intro htg _
    refine ih ?_ (by simp)
    dsimp only [tgt'] at ht
    split at ht
    · exact hrec _ _ _ _ htg ht
    · cases ht; exact htg
  | case5 pre prev cur rest coeff sw tgt h1 h2 ih =>
    -- no swap so far and `prev < cur`: the final prefix stays normal
    intro htg hn
    refine ih htg fun hs => ?_
    have := normalMono_snoc pre.reverse prev cur (hn hs) (opLt_total h1 (by simpa using h2))
    simpa using this

theorem normalizeAux_normal (fuel : Nat) (m : Mono) (c : K) (tgt t : Poly K)
    (ht : NormalPoly tgt) (h : normalizeAux fuel m c tgt = some t) : NormalPoly t := by
  induction fuel generalizing m c tgt t with
  | zero => simp [normalizeAux] at h
  | succ fuel ih =>
    match m, h with
    | [], h =>
      simp only [normalizeAux, Option.some.injEq] at h
      subst h; exact insertAdd_normal _ _ (by simp [NormalMono]) _ ht
    | [a], h =>
      simp only [normalizeAux, Option.some.injEq] at h
      subst h; exact insertAdd_normal _ _ (by simp [NormalMono]) _ ht
    | a :: b :: rest, h =>
      have hp := passGo_normal (normalizeAux fuel) (fun m c tgt t ht' hh => ih m c tgt t ht' hh)
        [] a (b :: rest) c false tgt ht (fun _ => trivial)
      simp only [normalizeAux] at h
      generalize passGo (normalizeAux fuel) [] a (b :: rest) c false tgt = r at hp h
      cases r with
      | oof => simp at h
      | zero t' =>
        simp only [Option.some.injEq] at h
        subst h; exact hp
      | done m' c' sw t' =>
        cases sw with
        | false =>
          simp only [Bool.false_eq_true, if_false, Option.some.injEq] at h
          subst h; exact insertAdd_normal _ _ (hp.2 rfl) _ hp.1
        | true =>
          simp only [if_true] at h
          exact ih _ _ _ _ hp.1 h

theorem foldlM_option_inv {α β : Type} (P : β → Prop) (f : β → α → Option β)
    (hf : ∀ acc x acc', P acc → f acc x = some acc' → P acc') :
    ∀ (l : List α) (init t : β), P init → l.foldlM f init = some t → P t
  | [], init, t, hi, h => by
    simp only [List.foldlM_nil] at h
    cases h; exact hi
  | x :: l, init, t, hi, h => by
    simp only [List.foldlM_cons] at h
    cases hx : f init x with
    | none => rw [hx] at h; simp at h
    | some acc' =>
      rw [hx] at h
      exact foldlM_option_inv P f hf l acc' t (hf _ _ _ hi hx) h

theorem mul_normal (p q t : Poly K) (h : Poly.mul p q = some t) : NormalPoly t := by
  unfold Poly.mul at h
  refine foldlM_option_inv NormalPoly _ ?_ p [] t (fun _ hmem => by simp at hmem) h
  rintro acc ⟨m, c⟩ acc' hacc h1
  refine foldlM_option_inv NormalPoly _ ?_ q acc acc' hacc h1
  rintro acc2 ⟨m2, c2⟩ acc2' hacc2 h2
  exact normalizeAux_normal _ _ _ _ _ hacc2 h2

end

end Pomerol.Spec
