/-
  Quadratic Hamiltonians give the free propagator (property C12, first half).

  `J` indexes the single-particle modes, `c j` is the eigenbasis matrix of the annihilation operator
  of mode `j`, `h` is the single-particle matrix.
-/
import PomerolModel.Spec.GFProps

namespace Pomerol.Spec
open Matrix Complex

variable {ι : Type} [Fintype ι] [DecidableEq ι] {J : Type} [Fintype J] [DecidableEq J]

set_option linter.unusedSectionVars false

/-- canonical anticommutation relations of the mode operators -/
structure ModeCAR (c : J → Matrix ι ι ℂ) : Prop where
  ccd : ∀ i j, c i * (c j)ᴴ + (c j)ᴴ * c i = if i = j then 1 else 0
  cc : ∀ i j, c i * c j + c j * c i = 0

/-- `d` is the eigen-data of the quadratic Hamiltonian `Σ_kl h_kl c†_k c_l`, the `c j` being the mode
operators written in its eigenbasis -/
structure Quadratic (d : EigenData ι) (c : J → Matrix ι ι ℂ) (h : Matrix J J ℂ) : Prop where
  car : ModeCAR c
  ham : d.H = ∑ k, ∑ l, h k l • ((c k)ᴴ * c l)

theorem comm_bilinear (c : J → Matrix ι ι ℂ) (hc : ModeCAR c) (i k l : J) :
    c i * ((c k)ᴴ * c l) - ((c k)ᴴ * c l) * c i = if i = k then c l else 0 := by
  have h1 : c i * (c k)ᴴ = (if i = k then (1 : Matrix ι ι ℂ) else 0) - (c k)ᴴ * c i :=
    eq_sub_of_add_eq (hc.ccd i k)
  have h2 : c i * c l = -(c l * c i) := eq_neg_of_add_eq_zero_left (hc.cc i l)
  rw [← Matrix.mul_assoc, h1, Matrix.sub_mul, Matrix.mul_assoc ((c k)ᴴ), h2, Matrix.mul_neg,
    sub_neg_eq_add, ← Matrix.mul_assoc, add_sub_cancel_right]
  split_ifs <;> simp

theorem comm_quadratic (c : J → Matrix ι ι ℂ) (hc : ModeCAR c) (h : Matrix J J ℂ) (i : J) :
    c i * (∑ k, ∑ l, h k l • ((c k)ᴴ * c l)) - (∑ k, ∑ l, h k l • ((c k)ᴴ * c l)) * c i
      = ∑ l, h i l • c l := by
  simp only [Matrix.mul_sum, Matrix.sum_mul, Matrix.mul_smul, Matrix.smul_mul]
  simp only [← Finset.sum_sub_distrib, ← smul_sub, comm_bilinear c hc]
  simp only [smul_ite, smul_zero]
  rw [Finset.sum_comm]
  refine Finset.sum_congr rfl fun l _ => ?_
  rw [Finset.sum_ite_eq, if_pos (Finset.mem_univ i)]

theorem eom_eigenbasis (d : EigenData ι) (c : J → Matrix ι ι ℂ) (hc : ModeCAR c) (h : Matrix J J ℂ)
    (hH : d.H = ∑ k, ∑ l, h k l • ((c k)ᴴ * c l)) (i : J) (n m : ι) :
    ((d.E m - d.E n : ℝ) : ℂ) * c i n m = ∑ l, h i l * c l n m := by
  have key := congrFun (congrFun (comm_quadratic c hc h i) n) m
  rw [← hH] at key
  unfold EigenData.H at key
  rw [Matrix.sub_apply, Matrix.mul_diagonal, Matrix.diagonal_mul, Matrix.sum_apply] at key
  simp only [Matrix.smul_apply, smul_eq_mul] at key
  rw [← key]
  push_cast
  ring

/-- `z·A − [A,H]` in the eigenbasis: `(z − (E_m − E_n)) A_nm` -/
noncomputable def EigenData.eomOp (d : EigenData ι) (z : ℂ) (A : Matrix ι ι ℂ) : Matrix ι ι ℂ :=
  Matrix.of fun n m => (z - ((d.E m - d.E n : ℝ) : ℂ)) * A n m

theorem eomOp_eq_sum {d : EigenData ι} {c : J → Matrix ι ι ℂ} {h : Matrix J J ℂ}
    (q : Quadratic d c h) (i : J) (z : ℂ) :
    ∑ i', (z • (1 : Matrix J J ℂ) - h) i i' • c i' = d.eomOp z (c i) := by
  ext n m
  unfold EigenData.eomOp
  rw [Matrix.of_apply, sub_mul, eom_eigenbasis d c q.car h q.ham i n m, Matrix.sum_apply]
  simp only [Matrix.smul_apply, Matrix.sub_apply, Matrix.one_apply, smul_eq_mul, sub_mul,
    Finset.sum_sub_distrib, mul_ite, mul_one, mul_zero, ite_mul, zero_mul, Finset.sum_ite_eq,
    Finset.mem_univ, if_true]

theorem lehmannG_sum_first {κ : Type} [Fintype κ] (d : EigenData ι) (g : κ → ℂ)
    (F : κ → Matrix ι ι ℂ) (B : Matrix ι ι ℂ) (z : ℂ) :
    ∑ p, g p * d.lehmannG (F p) B z = d.lehmannG (∑ p, g p • F p) B z := by
  unfold EigenData.lehmannG
  simp only [Matrix.sum_apply, Matrix.smul_apply, smul_eq_mul, Finset.mul_sum, Finset.sum_mul,
    Finset.sum_div]
  rw [Finset.sum_comm]
  refine Finset.sum_congr rfl fun n _ => ?_
  rw [Finset.sum_comm]
  exact Finset.sum_congr rfl fun m _ => Finset.sum_congr rfl fun p _ => by ring

/-- equation of motion of G: with `z·A − [A,H]` in the first place every denominator cancels and the
Lehmann sum is the sum of the residues -/
theorem lehmannG_eomOp (d : EigenData ι) (A B : Matrix ι ι ℂ) (z : ℂ)
    (hz : ∀ n m, z ≠ ((d.E m - d.E n : ℝ) : ℂ)) :
    d.lehmannG (d.eomOp z A) B z = ∑ n, ∑ m, d.res A B n m := by
  unfold EigenData.lehmannG EigenData.res EigenData.eomOp
  refine Finset.sum_congr rfl fun n _ => Finset.sum_congr rfl fun m _ => ?_
  have hne : z - ((d.E m - d.E n : ℝ) : ℂ) ≠ 0 := sub_ne_zero.mpr (hz n m)
  rw [Matrix.of_apply, mul_assoc, mul_assoc, mul_div_cancel_left₀ _ hne, mul_assoc]

/-- free propagator: for a quadratic Hamiltonian the matrix of Green's functions is the inverse of
(z − h), for every Hermitian or non-Hermitian h for which H is the given diagonal matrix, degenerate
levels included, at every z that is not a pole -/
theorem free_propagator [Nonempty ι] (d : EigenData ι) (c : J → Matrix ι ι ℂ) (hc : ModeCAR c)
    (h : Matrix J J ℂ) (hH : d.H = ∑ k, ∑ l, h k l • ((c k)ᴴ * c l)) (z : ℂ)
    (hz : ∀ n m, z ≠ ((d.E m - d.E n : ℝ) : ℂ)) :
    (z • (1 : Matrix J J ℂ) - h) * (Matrix.of fun l j => d.lehmannG (c l) (c j)ᴴ z) = 1 := by
  ext i j
  have hcar : c i * (c j)ᴴ + (c j)ᴴ * c i = (if i = j then (1 : ℂ) else 0) • (1 : Matrix ι ι ℂ) := by
    rw [hc.ccd i j, ite_smul, one_smul, zero_smul]
  rw [Matrix.one_apply, ← residue_sum_car d (c i) (c j)ᴴ _ hcar, ← lehmannG_eomOp d _ _ z hz,
    ← eomOp_eq_sum ⟨hc, hH⟩ i z, ← lehmannG_sum_first, Matrix.mul_apply]
  rfl

end Pomerol.Spec
