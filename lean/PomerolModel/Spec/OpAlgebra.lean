/-
  Operators that are diagonal in the Fock basis (`IsDiag`), and the specialised `N` and `S_z`
  presets against their generic polynomial forms.
-/
import PomerolModel.Spec.JW

namespace Pomerol.Spec
open Pomerol.Model
open scoped Pomerol.Spec.Exact

section
variable {K : Type} [CommRing K]

def IsDiag (F : Module.End K (Nat →₀ K)) (q : Nat → K) : Prop :=
  ∀ s, F (Finsupp.single s 1) = q s • Finsupp.single s 1

theorem IsDiag.apply {D : Module.End K (Nat →₀ K)} {q : Nat → K} (h : IsDiag D q)
    (v : Nat →₀ K) (t : Nat) : D v t = q t * v t := by
  induction v using Finsupp.induction_linear with
  | zero => rw [LinearMap.map_zero, Finsupp.zero_apply, mul_zero]
  | add f g hf hg => rw [map_add, Finsupp.add_apply, hf, hg, Finsupp.add_apply, mul_add]
  | single u a =>
    rw [← Finsupp.smul_single_one, map_smul, h u, Finsupp.smul_apply, Finsupp.smul_apply,
      Finsupp.smul_apply, Finsupp.single_apply]
    split
    · next hut => subst hut; simp [mul_comm]
    · simp

theorem IsDiag.mul_apply {D : Module.End K (Nat →₀ K)} {q : Nat → K} (h : IsDiag D q)
    (F : Module.End K (Nat →₀ K)) (s t : Nat) :
    (F * D) (Finsupp.single s 1) t = F (Finsupp.single s 1) t * q s := by
  rw [Module.End.mul_apply, h s, map_smul, Finsupp.smul_apply, smul_eq_mul, mul_comm]

theorem IsDiag.apply_mul {D : Module.End K (Nat →₀ K)} {q : Nat → K} (h : IsDiag D q)
    (F : Module.End K (Nat →₀ K)) (s t : Nat) :
    (D * F) (Finsupp.single s 1) t = q t * F (Finsupp.single s 1) t := by
  rw [Module.End.mul_apply, h.apply]

theorem IsDiag.zero : IsDiag (0 : Module.End K (Nat →₀ K)) (fun _ => 0) := fun s => by simp

theorem IsDiag.add {F G : Module.End K (Nat →₀ K)} {p q : Nat → K} (hF : IsDiag F p)
    (hG : IsDiag G q) : IsDiag (F + G) (fun s => p s + q s) := fun s => by
  rw [LinearMap.add_apply, hF s, hG s, add_smul]

theorem IsDiag.sub {F G : Module.End K (Nat →₀ K)} {p q : Nat → K} (hF : IsDiag F p)
    (hG : IsDiag G q) : IsDiag (F - G) (fun s => p s - q s) := fun s => by
  rw [LinearMap.sub_apply, hF s, hG s, sub_smul]

theorem IsDiag.smul {F : Module.End K (Nat →₀ K)} {p : Nat → K} (hF : IsDiag F p) (a : K) :
    IsDiag (a • F) (fun s => a * p s) := fun s => by
  rw [LinearMap.smul_apply, hF s, smul_smul]

theorem IsDiag.congr {F : Module.End K (Nat →₀ K)} {p q : Nat → K} (hF : IsDiag F p)
    (h : ∀ s, p s = q s) : IsDiag F q := fun s => by rw [← h s, hF s]

theorem poly_opN {A : Type} [Ring A] [Algebra K A] (r : CARRep K A) (i : Nat) :
    r.poly (opN (K := K) i) = r.cd i * r.c i := by
  simp [opN, CARRep.op]

theorem opN_sem (i : Nat) :
    IsDiag ((jwRep K).poly (opN (K := K) i)) (fun s => if s.testBit i then 1 else 0) := by
  intro s
  rw [poly_opN, Module.End.mul_apply]
  change jwOp K ⟨false, i⟩ (jwOp K ⟨true, i⟩ _) = _
  rw [jwOp_jwOp_single]
  simp only [testBit_flipBit, lowParity_flipBit, flipBit_flipBit, if_true, Nat.lt_irrefl,
    if_false, one_mul, sgn_mul_self]
  cases s.testBit i <;> simp

theorem IsDiag.list_sum {ι : Type} (l : List ι) (F : ι → Module.End K (Nat →₀ K))
    (q : ι → Nat → K) (h : ∀ x ∈ l, IsDiag (F x) (q x)) :
    IsDiag (l.map F).sum (fun s => (l.map (q · s)).sum) := by
  induction l with
  | nil => exact IsDiag.zero
  | cons x l ih =>
    rw [List.map_cons, List.sum_cons]
    exact (h x List.mem_cons_self).add (ih fun y hy => h y (List.mem_cons_of_mem _ hy))

theorem popCount_succ (s M : Nat) :
    popCount s (M + 1) = popCount s M + if s.testBit M then 1 else 0 := by
  unfold popCount
  rw [List.range_succ, List.filter_append, List.length_append]
  by_cases h : s.testBit M <;> simp [h]

theorem popCount_eq_sum (s M : Nat) : ((popCount s M : Nat) : K) =
    ((List.range M).map fun i => if s.testBit i then (1 : K) else 0).sum := by
  induction M with
  | zero => simp [popCount]
  | succ M ih => rw [popCount_succ, List.range_succ, List.map_append, List.sum_append, ← ih]; simp

theorem szTwice_cons (u d : Nat) (ups downs : List Nat) (s : Nat) :
    szTwice (u :: ups) (d :: downs) s =
      szTwice ups downs s + (if s.testBit u then 1 else 0) - (if s.testBit d then 1 else 0) := by
  unfold szTwice
  simp only [List.filter_cons]
  by_cases hu : s.testBit u <;> by_cases hd : s.testBit d <;>
    simp only [hu, hd, Bool.false_eq_true, if_true, if_false, List.length_cons] <;> omega

/-- for lists of equal lengths (`zip` truncates, the specialised count does not) -/
theorem szTwice_eq_sum (s : Nat) : ∀ (ups downs : List Nat), ups.length = downs.length →
    ((szTwice ups downs s : Int) : K) = ((ups.zip downs).map fun ud =>
      (if s.testBit ud.1 then (1 : K) else 0) - (if s.testBit ud.2 then 1 else 0)).sum
  | [], [], _ => by simp [szTwice]
  | u :: ups, d :: downs, h => by
    rw [List.zip_cons_cons, List.map_cons, List.sum_cons,
      ← szTwice_eq_sum s ups downs (Nat.succ.inj h), szTwice_cons]
    push_cast
    ring

end

section
variable {K A : Type} [CommRing K] [DecidableEq K] [Ring A] [Algebra K A]

theorem opNTotal_succ (M : Nat) :
    opNTotal (K := K) (M + 1) = Poly.add (opNTotal M) (opN M) := by
  unfold opNTotal
  rw [List.range_succ, List.foldl_append]
  rfl

theorem opNTotal_poly (r : CARRep K A) (M : Nat) :
    r.poly (opNTotal (K := K) M) = ((List.range M).map fun i => r.poly (opN (K := K) i)).sum := by
  unfold opNTotal
  rw [foldl_sem r.poly _ _ fun acc i => add_sem r acc (opN i), poly_nil, zero_add]

theorem opSz_poly (r : CARRep K A) (half : K) (ups downs : List Nat) :
    r.poly (opSz half ups downs) = ((ups.zip downs).map fun ud =>
      half • (r.poly (opN (K := K) ud.1) - r.poly (opN (K := K) ud.2))).sum := by
  unfold opSz
  rw [foldl_sem r.poly _
    (fun ud => half • (r.poly (opN (K := K) ud.1) - r.poly (opN (K := K) ud.2))) fun acc ud => by
      rw [sub_sem, add_sem, smul_sem, smul_sem, smul_sub, add_sub_assoc], poly_nil, zero_add]

end

section
variable {K : Type} [CommRing K] [DecidableEq K]

theorem opNTotal_sem (M : Nat) :
    IsDiag ((jwRep K).poly (opNTotal (K := K) M)) (fun s => ((popCount s M : Nat) : K)) := by
  rw [opNTotal_poly]
  exact (IsDiag.list_sum _ _ _ fun i _ => opN_sem i).congr fun s => (popCount_eq_sum s M).symm

/-- (`half` is arbitrary) -/
theorem opSz_sem (half : K) (ups downs : List Nat) (h : ups.length = downs.length) :
    IsDiag ((jwRep K).poly (opSz half ups downs))
      (fun s => half * ((szTwice ups downs s : Int) : K)) := by
  rw [opSz_poly]
  refine (IsDiag.list_sum (ups.zip downs) _
    (fun ud s => half * ((if s.testBit ud.1 then 1 else 0) - (if s.testBit ud.2 then 1 else 0)))
    fun ud _ => ((opN_sem ud.1).sub (opN_sem ud.2)).smul half).congr fun s => ?_
  rw [szTwice_eq_sum s ups downs h, ← List.sum_map_mul_left]

theorem IsDiag.matrixElement [Nontrivial K] {p : Poly K} {q : Nat → K}
    (h : IsDiag ((jwRep K).poly p) q) (bra ket : Nat) :
    matrixElement p bra ket = if bra = ket then q ket else 0 := by
  rw [matrixElement_sem, h ket, Finsupp.smul_apply, Finsupp.single_apply, smul_eq_mul, mul_ite,
    mul_one, mul_zero]
  simp only [eq_comm]

/-- `N::getMatrixElement` shortcut = generic `Operator::getMatrixElement` of the polynomial -/
theorem N_shortcut [Nontrivial K] (M bra ket : Nat) :
    matrixElement (opNTotal (K := K) M) bra ket =
      if bra = ket then ((popCount ket M : Nat) : K) else 0 :=
  (opNTotal_sem M).matrixElement bra ket

/-- `Sz::getMatrixElement` shortcut = generic `Operator::getMatrixElement` of the polynomial -/
theorem Sz_shortcut [Nontrivial K] (half : K) (ups downs : List Nat)
    (h : ups.length = downs.length) (bra ket : Nat) :
    matrixElement (opSz half ups downs) bra ket =
      if bra = ket then half * ((szTwice ups downs ket : Int) : K) else 0 :=
  (opSz_sem half ups downs h).matrixElement bra ket

end

end Pomerol.Spec
