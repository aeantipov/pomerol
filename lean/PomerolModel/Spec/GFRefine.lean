/-
  Refinement: the LOOP STRUCTURE of the single-particle Green's function code computes the Lehmann sum.

  `Model/GFPart.lean` models `GreensFunctionPart::compute` (parallel walk over a compressed row of the
  block of `c` and a compressed column of the block of `c†`, with chasing) and `GreensFunction::prepare`
  (merge walk over the two block bimaps).  Both loops are first shown to produce a list written without the
  loop (`computeSpec`, `selected`); a sum over such a list is the sum over ALL index pairs resp. block pairs
  because the summand vanishes wherever a matrix element does (`sum_list_eq_sum_coded`).

  Why block pairs are phrased with two index types: `Spec/Lehmann.lean` sums over ONE index type `ι`
  (the whole eigenbasis).  A part of the library sees an `N × M` block of `c` and the `M × N` block of
  `c†`, so the part theorems are stated for rectangular blocks over `Fin N`, `Fin M` (`blockPart`); the
  link to `d.lehmannG` is made twice: for the whole basis as one block
  (`one_block_loop_refines_lehmann`, `ι = Fin N`) and for a basis split into blocks
  (`ι = Σ b, Fin (sz b)`: `prepared_parts_sum`, `C01.loops_compute_lehmann_sum`).
-/
import PomerolModel.Spec.SparseWalk
import PomerolModel.Spec.BlockBasis
import PomerolModel.Spec.Bridge

namespace Pomerol.Spec.GFRefine
open Pomerol.Model.GFPart Pomerol.Model.Chase Pomerol.Properties Pomerol.Spec.SparseWalk
open Pomerol.Model.Chi4Part (coeffIn)

section Walk
variable {V : Type}

/-- strictly increasing inner indices: what Eigen's compressed storage guarantees -/
def SortedVec (l : SpVec V) : Prop := C17.Sorted (indices l)

instance (l : SpVec V) : Decidable (SortedVec l) := by
  unfold SortedVec C17.Sorted; infer_instance

theorem sortedVec_iff (l : SpVec V) : SortedVec l ↔ l.Pairwise (fun p q => p.1 < q.1) := by
  unfold SortedVec C17.Sorted indices
  exact List.pairwise_map

theorem sortedVec_outer {m : SpMat V} (h : ∀ r ∈ m, SortedVec r) (o : Nat) :
    SortedVec (m[o]?.getD []) := by
  rcases ho : m[o]? with _ | v
  · exact List.Pairwise.nil
  · exact h v (List.mem_of_getElem? ho)

/-- what the loop body does with the stored entry `p = (index2, c)` of row `index1` of `C`, given the
column `b` of `CX`: if `b` stores an entry `cx` at the same inner index and the test passes, emit -/
def emit (keep : Nat → Nat → V → V → Bool) (i : Nat) (b : SpVec V) (p : Nat × V) :
    Option (Contribution V) :=
  match b.lookup p.1 with
  | some cx => if keep i p.1 p.2 cx then some (i, p.1, p.2, cx) else none
  | none => none

/-- specification of one pass of the `while` loop: the entries of the row that have a partner in the
column, in the order of the row -/
def rowSpec (keep : Nat → Nat → V → V → Bool) (i : Nat) (a b : SpVec V) : List (Contribution V) :=
  a.filterMap (emit keep i b)

def computeSpec (keep : Nat → Nat → V → V → Bool) (C CX : SpMat V) : List (Contribution V) :=
  (List.range C.length).flatMap fun i => rowSpec keep i (C[i]?.getD []) (CX[i]?.getD [])

theorem emit_eq_some_iff (keep : Nat → Nat → V → V → Bool) (i : Nat) (b : SpVec V) (p : Nat × V)
    (x : Contribution V) :
    emit keep i b p = some x ↔
      ∃ cx, b.lookup p.1 = some cx ∧ keep i p.1 p.2 cx = true ∧ x = (i, p.1, p.2, cx) := by
  unfold emit
  cases b.lookup p.1 with
  | none => exact ⟨(fun h => nomatch h), fun ⟨_, h, _⟩ => nomatch h⟩
  | some cx =>
    dsimp only
    by_cases hk : keep i p.1 p.2 cx = true
    · rw [if_pos hk]
      exact ⟨fun h => ⟨cx, rfl, hk, (Option.some.inj h).symm⟩, fun ⟨_, h, _, hx⟩ => by cases h; rw [hx]⟩
    · rw [if_neg hk]
      exact ⟨(fun h => nomatch h), fun ⟨_, h, hk', _⟩ => by cases h; exact absurd hk' hk⟩

private theorem indexAt_of_lt (l : SpVec V) {p : Nat} (h : p < l.length) :
    indexAt (indices l) p = .ok l[p].1 :=
  indexAt_storedIdx (val := l[p].2) (List.getElem?_eq_getElem h)

private theorem valueAt_of_lt (l : SpVec V) {p : Nat} (h : p < l.length) :
    valueAt l p = .ok l[p].2 := by
  unfold valueAt; rw [List.getElem?_eq_getElem h]

theorem rowWalk_stop (gCX gC : Bool) (keep : Nat → Nat → V → V → Bool) (i : Nat) (a b : SpVec V)
    (fuel pa pb : Nat) (acc : List (Contribution V)) (h : pa ≥ a.length ∨ pb ≥ b.length) :
    rowWalk gCX gC keep i a b (fuel + 1) pa pb acc = .ok acc := by
  rw [rowWalk, if_pos h]

theorem rowWalk_eq (gCX gC : Bool) (keep : Nat → Nat → V → V → Bool) (i : Nat) (a b : SpVec V)
    (fuel pa pb : Nat) (acc : List (Contribution V)) (h1 : pa < a.length) (h2 : pb < b.length)
    (heq : a[pa].1 = b[pb].1) :
    rowWalk gCX gC keep i a b (fuel + 1) pa pb acc
      = rowWalk gCX gC keep i a b fuel (pa + 1) (pb + 1)
          (if keep i a[pa].1 a[pa].2 b[pb].2 then acc ++ [(i, a[pa].1, a[pa].2, b[pb].2)]
            else acc) := by
  rw [rowWalk, if_neg (ChaseProps.not_stop h1 h2)]
  simp only [indexAt_of_lt a h1, indexAt_of_lt b h2, valueAt_of_lt a h1, valueAt_of_lt b h2]
  rw [if_pos heq]

theorem rowWalk_lt (gCX gC : Bool) (keep : Nat → Nat → V → V → Bool) (i : Nat) (a b : SpVec V)
    (fuel pa pb : Nat) (acc : List (Contribution V)) (h1 : pa < a.length) (h2 : pb < b.length)
    (hlt : b[pb].1 < a[pa].1) (pb' : Nat)
    (hadv : advance gCX (indices b) a[pa].1 (b.length + 1) pb = .ok pb') :
    rowWalk gCX gC keep i a b (fuel + 1) pa pb acc = rowWalk gCX gC keep i a b fuel pa pb' acc := by
  rw [rowWalk, if_neg (ChaseProps.not_stop h1 h2)]
  simp only [indexAt_of_lt a h1, indexAt_of_lt b h2]
  rw [if_neg (Nat.ne_of_gt hlt), if_pos hlt, hadv]

theorem rowWalk_gt (gCX gC : Bool) (keep : Nat → Nat → V → V → Bool) (i : Nat) (a b : SpVec V)
    (fuel pa pb : Nat) (acc : List (Contribution V)) (h1 : pa < a.length) (h2 : pb < b.length)
    (hlt : a[pa].1 < b[pb].1) (pa' : Nat)
    (hadv : advance gC (indices a) b[pb].1 (a.length + 1) pa = .ok pa') :
    rowWalk gCX gC keep i a b (fuel + 1) pa pb acc = rowWalk gCX gC keep i a b fuel pa' pb acc := by
  rw [rowWalk, if_neg (ChaseProps.not_stop h1 h2)]
  simp only [indexAt_of_lt a h1, indexAt_of_lt b h2]
  rw [if_neg (Nat.ne_of_lt hlt), if_neg (Nat.lt_asymm hlt), hadv]

theorem rowSpec_eq_common (keep : Nat → Nat → V → V → Bool) (i : Nat) (a b : SpVec V)
    (ha : SortedVec a) :
    rowSpec keep i a b = ((indices a).filter (· ∈ indices b)).flatMap
      (atCommon a b fun x c cx => if keep i x c cx then [(i, x, c, cx)] else []) := by
  have key : ∀ l : SpVec V, (∀ p ∈ l, a.lookup p.1 = some p.2) →
      l.filterMap (emit keep i b) = ((indices l).filter (· ∈ indices b)).flatMap
        (atCommon a b fun x c cx => if keep i x c cx then [(i, x, c, cx)] else []) := by
    intro l
    induction l with
    | nil => intro _; rfl
    | cons p l ih =>
      intro h
      have hp := h p List.mem_cons_self
      have ih' := ih fun q hq => h q (List.mem_cons_of_mem _ hq)
      rw [show indices (p :: l) = p.1 :: indices l from rfl, List.filter_cons]
      cases hl : b.lookup p.1 with
      | none =>
        rw [List.filterMap_cons_none (by unfold emit; rw [hl]), ih', if_neg]
        rw [decide_eq_true_iff]
        exact (lookup_eq_none_iff_not_mem b p.1).mp hl
      | some cx =>
        have hm : p.1 ∈ indices b := by
          by_contra hn
          rw [(lookup_eq_none_iff_not_mem b p.1).mpr hn] at hl
          cases hl
        rw [if_pos (decide_eq_true hm), List.flatMap_cons, ← ih']
        unfold atCommon
        rw [hp, hl]
        dsimp only
        by_cases hk : keep i p.1 p.2 cx = true
        · rw [if_pos hk, List.filterMap_cons_some (by unfold emit; rw [hl]; exact if_pos hk)]
          rfl
        · rw [if_neg hk, List.filterMap_cons_none (by unfold emit; rw [hl]; exact if_neg hk)]
          rfl
  exact key a fun p hp => (lookup_eq_some_iff_mem ha p.1 p.2).mpr hp

theorem rowWalk_rowSpec (keep : Nat → Nat → V → V → Bool) (i : Nat) (a b : SpVec V)
    (ha : SortedVec a) (hb : SortedVec b) (acc : List (Contribution V)) :
    rowWalk true true keep i a b (a.length + b.length + 1) 0 0 acc
      = .ok (acc ++ rowSpec keep i a b) := by
  rw [rowWalk_eq_chaseWalk, chase_sorted a b ha hb, rowSpec_eq_common keep i a b ha]
  rfl

theorem rowSpec_indices (i : Nat) (a b : SpVec V) (ha : SortedVec a) :
    (rowSpec (fun _ _ _ _ => true) i a b).map (fun x => x.2.1)
      = (indices a).filter (fun k => decide (k ∈ indices b)) := by
  rw [rowSpec_eq_common _ i a b ha, List.map_flatMap]
  refine (List.flatMap_congr fun x hx => ?_).trans (List.flatMap_singleton' _)
  obtain ⟨hxa, hxb⟩ := List.mem_filter.mp hx
  obtain ⟨va, vb, -, -, h⟩ := atCommon_of_mem a b
    (fun x c cx => if (fun _ _ _ _ => true) i x c cx = true then [(i, x, c, cx)] else []) hxa
    (of_decide_eq_true hxb)
  rw [h]
  rfl

/-- on sorted inner vectors the index-only merge walk of `Model/Chase.lean` (property C17) returns
exactly the inner indices at which the walk with values emits its contributions -/
theorem rowWalk_agrees_with_chase (i : Nat) (a b : SpVec V) (ha : SortedVec a) (hb : SortedVec b) :
    ∃ l, rowWalk true true (fun _ _ _ _ => true) i a b (a.length + b.length + 1) 0 0 [] = .ok l ∧
      commonIndices true (indices a) (indices b) = .ok (l.map fun x => x.2.1) := by
  refine ⟨_, rowWalk_rowSpec _ i a b ha hb [], ?_⟩
  rw [List.nil_append, rowSpec_indices i a b ha, ChaseProps.commonIndices_sorted _ _ ha hb]

theorem outerLoop_spec (keep : Nat → Nat → V → V → Bool) (C CX : SpMat V)
    (hC : ∀ r ∈ C, SortedVec r) (hCX : ∀ r ∈ CX, SortedVec r) :
    ∀ n i acc, i + n ≤ C.length → i + n ≤ CX.length →
      outerLoop true true keep C CX n i acc
        = .ok (acc ++ (List.range' i n).flatMap fun j =>
            rowSpec keep j (C[j]?.getD []) (CX[j]?.getD [])) := by
  intro n
  induction n with
  | zero =>
    intro i acc _ _
    rw [outerLoop, List.range'_zero, List.flatMap_nil, List.append_nil]
  | succ n ih =>
    intro i acc h1 h2
    have hi1 : i < C.length := Nat.lt_of_lt_of_le (Nat.lt_add_of_pos_right n.succ_pos) h1
    have hi2 : i < CX.length := Nat.lt_of_lt_of_le (Nat.lt_add_of_pos_right n.succ_pos) h2
    rw [outerLoop, List.getElem?_eq_getElem hi1, List.getElem?_eq_getElem hi2]
    dsimp only
    rw [rowWalk_rowSpec keep i C[i] CX[i] (hC _ (List.getElem_mem hi1))
      (hCX _ (List.getElem_mem hi2)) acc]
    dsimp only
    rw [ih (i + 1) _ ((Nat.succ_add i n).trans_le h1) ((Nat.succ_add i n).trans_le h2),
      List.range'_succ, List.flatMap_cons, List.getElem?_eq_getElem hi1,
      List.getElem?_eq_getElem hi2, List.append_assoc]
    rfl

/-- `hlen` is `≤`, not `=`: the loop runs over the rows of `C` and opens column `index1` of `CX` for each
of them, further columns of `CX` are never opened (in the library both lengths are the dimension of the
outer block). -/
theorem gfpart_contributions (keep : Nat → Nat → V → V → Bool) (C CX : SpMat V)
    (hC : ∀ r ∈ C, SortedVec r) (hCX : ∀ r ∈ CX, SortedVec r) (hlen : C.length ≤ CX.length) :
    compute true true keep C CX = .ok (computeSpec keep C CX) := by
  unfold compute computeSpec
  rw [outerLoop_spec keep C CX hC hCX C.length 0 [] (by omega) (by omega), List.range_eq_range',
    List.nil_append]

/-- The flags extracted from the source are the guarded ones.  All loop theorems of the Green's function
are stated at the flags `true true`; this is the statement that ties them to the source (audited under
property C17). -/
theorem gfpart_contributions_source (keep : Nat → Nat → V → V → Bool) (C CX : SpMat V)
    (hC : ∀ r ∈ C, SortedVec r) (hCX : ∀ r ∈ CX, SortedVec r) (hlen : C.length ≤ CX.length) :
    computeSource keep C CX = .ok (computeSpec keep C CX) := by
  have h1 : sourceGuardCX = true := by decide
  have h2 : sourceGuardC = true := by decide
  unfold computeSource
  rw [h1, h2]
  exact gfpart_contributions keep C CX hC hCX hlen

theorem mem_computeSpec (keep : Nat → Nat → V → V → Bool) (C CX : SpMat V)
    (hCX : ∀ r ∈ CX, SortedVec r) (hlen : C.length ≤ CX.length) (i k : Nat) (c cx : V) :
    (i, k, c, cx) ∈ computeSpec keep C CX ↔
      ∃ a b, C[i]? = some a ∧ CX[i]? = some b ∧ (k, c) ∈ a ∧ (k, cx) ∈ b ∧ keep i k c cx = true := by
  unfold computeSpec rowSpec
  simp only [List.mem_flatMap, List.mem_range, List.mem_filterMap]
  constructor
  · rintro ⟨j, hj, p, hp, he⟩
    have hj2 : j < CX.length := Nat.lt_of_lt_of_le hj hlen
    rw [List.getElem?_eq_getElem hj, Option.getD_some] at hp
    rw [List.getElem?_eq_getElem hj2, Option.getD_some] at he
    obtain ⟨cx', hlk, hkeep, he⟩ := (emit_eq_some_iff ..).mp he
    simp only [Prod.mk.injEq] at he
    obtain ⟨rfl, rfl, rfl, rfl⟩ := he
    exact ⟨_, _, List.getElem?_eq_getElem hj, List.getElem?_eq_getElem hj2, hp,
      (lookup_eq_some_iff_mem (hCX _ (List.getElem_mem hj2)) _ _).mp hlk, hkeep⟩
  · rintro ⟨a, b, ha, hb, hka, hkb, hkeep⟩
    obtain ⟨hi, -⟩ := List.getElem?_eq_some_iff.mp ha
    refine ⟨i, hi, (k, c), by rw [ha]; exact hka, ?_⟩
    rw [hb, Option.getD_some]
    exact (emit_eq_some_iff ..).mpr
      ⟨cx, (lookup_eq_some_iff_mem (hCX b (List.mem_of_getElem? hb)) k cx).mpr hkb, hkeep, rfl⟩

/-- every pair `(index1, index2)` is emitted at most once; the order is row by row, by increasing
inner index -/
theorem computeSpec_sorted (keep : Nat → Nat → V → V → Bool) (C CX : SpMat V)
    (hC : ∀ r ∈ C, SortedVec r) :
    (computeSpec keep C CX).Pairwise
      (fun p q => p.1 < q.1 ∨ (p.1 = q.1 ∧ p.2.1 < q.2.1)) := by
  unfold computeSpec
  rw [List.pairwise_flatMap]
  constructor
  · intro i _
    have hs := (sortedVec_iff _).mp (sortedVec_outer hC i)
    unfold rowSpec
    refine List.Pairwise.filterMap _ ?_ hs
    intro p q hpq x hx y hy
    obtain ⟨_, _, _, rfl⟩ := (emit_eq_some_iff ..).mp hx
    obtain ⟨_, _, _, rfl⟩ := (emit_eq_some_iff ..).mp hy
    exact Or.inr ⟨rfl, hpq⟩
  · refine List.Pairwise.imp ?_ List.pairwise_lt_range
    intro i j hij x hx y hy
    unfold rowSpec at hx hy
    obtain ⟨p, _, hp⟩ := List.mem_filterMap.mp hx
    obtain ⟨q, _, hq⟩ := List.mem_filterMap.mp hy
    obtain ⟨_, _, _, rfl⟩ := (emit_eq_some_iff ..).mp hp
    obtain ⟨_, _, _, rfl⟩ := (emit_eq_some_iff ..).mp hq
    exact Or.inl hij

end Walk

section Sum
variable {α β : Type} [Zero α] [AddCommMonoid β] {N M : ℕ}

/-- `rows` is what a compressed row-major Eigen matrix holds of the `N × M` matrix `A`; stored zeros
are allowed -/
structure RepresentsRows (rows : SpMat α) (A : Matrix (Fin N) (Fin M) α) : Prop where
  len : rows.length = N
  sorted : ∀ r ∈ rows, SortedVec r
  bound : ∀ r ∈ rows, ∀ p ∈ r, p.1 < M
  stored : ∀ (i : Fin N) (j : Fin M) (v : α), (j.1, v) ∈ rows[i.1]?.getD [] → v = A i j
  notStored : ∀ (i : Fin N) (j : Fin M), (∀ v, (j.1, v) ∉ rows[i.1]?.getD []) → A i j = 0

/-- column-major: one inner vector per column -/
def RepresentsCols (cols : SpMat α) (A : Matrix (Fin M) (Fin N) α) : Prop :=
  RepresentsRows cols A.transpose

theorem RepresentsRows.lookup {rows : SpMat α} {A : Matrix (Fin N) (Fin M) α}
    (h : RepresentsRows rows A) (i : Fin N) (j : Fin M) :
    (rows[i.1]?.getD []).lookup j.1 = some (A i j) ∨
      ((rows[i.1]?.getD []).lookup j.1 = none ∧ A i j = 0) := by
  have hs : SortedVec (rows[i.1]?.getD []) := sortedVec_outer h.sorted _
  cases hl : (rows[i.1]?.getD []).lookup j.1 with
  | some v =>
    left
    rw [h.stored i j v ((lookup_eq_some_iff_mem hs _ _).mp hl)]
  | none =>
    right
    refine ⟨rfl, h.notStored i j fun v hv => ?_⟩
    rw [← lookup_eq_some_iff_mem hs, hl] at hv
    cases hv

/-- the converse of `lookup`, in a form that can be evaluated on concrete data -/
theorem RepresentsRows.of_lookup {rows : SpMat α} {A : Matrix (Fin N) (Fin M) α}
    (hlen : rows.length = N) (hs : ∀ r ∈ rows, SortedVec r) (hb : ∀ r ∈ rows, ∀ p ∈ r, p.1 < M)
    (h : ∀ (i : Fin N) (j : Fin M), (rows[i.1]?.getD []).lookup j.1 = some (A i j) ∨
      ((rows[i.1]?.getD []).lookup j.1 = none ∧ A i j = 0)) : RepresentsRows rows A where
  len := hlen
  sorted := hs
  bound := hb
  stored := by
    intro i j v hv
    have h' := h i j
    rw [(lookup_eq_some_iff_mem (sortedVec_outer hs _) j.1 v).mpr hv] at h'
    rcases h' with h' | ⟨h', -⟩
    · exact Option.some.inj h'
    · cases h'
  notStored := by
    intro i j hn
    rcases h i j with h' | ⟨-, h'⟩
    · exact absurd ((lookup_eq_some_iff_mem (sortedVec_outer hs _) j.1 _).mp h') (hn _)
    · exact h'

theorem representsRows_zero (N M : ℕ) :
    RepresentsRows (List.replicate N ([] : SpVec α)) (0 : Matrix (Fin N) (Fin M) α) :=
  RepresentsRows.of_lookup List.length_replicate
    (fun r hr => by rw [List.eq_of_mem_replicate hr]; exact List.Pairwise.nil)
    (fun r hr p hp => by rw [List.eq_of_mem_replicate hr] at hp; cases hp)
    fun i j => Or.inr ⟨by rw [List.getElem?_replicate]; split_ifs <;> rfl, rfl⟩

theorem representsRows_single (v : α) :
    RepresentsRows [[(0, v)]] (fun _ _ => v : Matrix (Fin 1) (Fin 1) α) :=
  RepresentsRows.of_lookup rfl
    (fun r hr => by rw [List.mem_singleton.mp hr]; exact List.pairwise_singleton _ _)
    (fun r hr p hp => by
      rw [List.mem_singleton.mp hr, List.mem_singleton] at hp
      rw [hp]; exact Nat.zero_lt_one)
    fun i j => by fin_cases i; fin_cases j; exact Or.inl rfl

/-- `RepresentsRows` (stated with membership) in terms of the denotation `coeffIn`; this is the form in
which `Chi4Refine.RowMajorOf` states the same thing -/
theorem RepresentsRows.coeffIn {rows : SpMat α} {A : Matrix (Fin N) (Fin M) α}
    (h : RepresentsRows rows A) (i : Fin N) (j : Fin M) :
    Pomerol.Model.Chi4Part.coeffIn (rows[i.1]?.getD []) j.1 = A i j := by
  unfold Pomerol.Model.Chi4Part.coeffIn
  rcases h.lookup i j with h1 | ⟨h1, h2⟩
  · rw [h1]
  · rw [h1, h2]

def kept (keep : ℕ → ℕ → α → α → Bool) (f : ℕ → ℕ → α → α → β) : ℕ → ℕ → α → α → β :=
  fun i k c cx => if keep i k c cx then f i k c cx else 0

theorem sum_rowSpec (keep : ℕ → ℕ → α → α → Bool) (f : ℕ → ℕ → α → α → β)
    (hf1 : ∀ i k x, f i k 0 x = 0) (hf2 : ∀ i k x, f i k x 0 = 0) (i : ℕ) (a b : SpVec α)
    (ha : SortedVec a) (hM : ∀ k ∈ indices a, k < M) :
    ((rowSpec keep i a b).map fun x => f x.1 x.2.1 x.2.2.1 x.2.2.2).sum
      = ∑ j : Fin M, kept keep f i j.1 (coeffIn a j.1) (coeffIn b j.1) := by
  rw [rowSpec_eq_common keep i a b ha, sum_map_flatMap,
    ← sum_common a b ha hM (kept keep f i) (fun k y => by unfold kept; rw [hf1, ite_self])
      fun k x => by unfold kept; rw [hf2, ite_self]]
  refine congrArg List.sum (List.map_congr_left fun x hx => ?_)
  obtain ⟨hxa, hxb⟩ := List.mem_filter.mp hx
  rw [atCommon_coeffIn a b _ hxa (of_decide_eq_true hxb)]
  unfold kept
  split_ifs <;> simp

theorem sum_computeSpec (keep : ℕ → ℕ → α → α → Bool) (f : ℕ → ℕ → α → α → β)
    (hf1 : ∀ i k x, f i k 0 x = 0) (hf2 : ∀ i k x, f i k x 0 = 0)
    {Cs CXs : SpMat α} {C : Matrix (Fin N) (Fin M) α} {CX : Matrix (Fin M) (Fin N) α}
    (hC : RepresentsRows Cs C) (hCX : RepresentsCols CXs CX) :
    ((computeSpec keep Cs CXs).map fun x => f x.1 x.2.1 x.2.2.1 x.2.2.2).sum
      = ∑ i : Fin N, ∑ j : Fin M, kept keep f i.1 j.1 (C i j) (CX j i) := by
  unfold computeSpec
  rw [sum_map_flatMap, hC.len, sum_map_range, Finset.sum_range]
  refine Finset.sum_congr rfl fun i _ => ?_
  have hi : i.1 < Cs.length := by rw [hC.len]; exact i.2
  rw [sum_rowSpec keep f hf1 hf2 i.1 _ _]
  · refine Finset.sum_congr rfl fun j _ => ?_
    rw [hC.coeffIn i j, RepresentsRows.coeffIn hCX i j]
    rfl
  · exact sortedVec_outer hC.sorted _
  · rw [List.getElem?_eq_getElem hi, Option.getD_some]
    intro k hk
    obtain ⟨v, hv⟩ := (mem_storedIdx_iff _ k).mp hk
    exact hC.bound _ (List.getElem_mem hi) _ hv

theorem gfpart_sum_kept (keep : ℕ → ℕ → α → α → Bool) (f : ℕ → ℕ → α → α → β)
    (hf1 : ∀ i k x, f i k 0 x = 0) (hf2 : ∀ i k x, f i k x 0 = 0)
    {Cs CXs : SpMat α} {C : Matrix (Fin N) (Fin M) α} {CX : Matrix (Fin M) (Fin N) α}
    (hC : RepresentsRows Cs C) (hCX : RepresentsCols CXs CX) :
    ∃ l, compute true true keep Cs CXs = .ok l ∧
      (l.map fun x => f x.1 x.2.1 x.2.2.1 x.2.2.2).sum
        = ∑ i : Fin N, ∑ j : Fin M,
            if keep i.1 j.1 (C i j) (CX j i) then f i.1 j.1 (C i j) (CX j i) else 0 :=
  ⟨_, gfpart_contributions keep Cs CXs hC.sorted hCX.sorted (by rw [hC.len, hCX.len]),
    sum_computeSpec keep f hf1 hf2 hC hCX⟩

/-- WALKING THE SPARSE ROWS LOSES NOTHING AND ADDS NOTHING (C01, `sparse_walk_is_full_sum`) -/
theorem gfpart_sum_eq_matrix_sum (f : ℕ → ℕ → α → α → β)
    (hf1 : ∀ i k x, f i k 0 x = 0) (hf2 : ∀ i k x, f i k x 0 = 0)
    {Cs CXs : SpMat α} {C : Matrix (Fin N) (Fin M) α} {CX : Matrix (Fin M) (Fin N) α}
    (hC : RepresentsRows Cs C) (hCX : RepresentsCols CXs CX) :
    ∃ l, compute true true (fun _ _ _ _ => true) Cs CXs = .ok l ∧
      (l.map fun x => f x.1 x.2.1 x.2.2.1 x.2.2.2).sum
        = ∑ i : Fin N, ∑ j : Fin M, f i.1 j.1 (C i j) (CX j i) := by
  -- with the constant test, `if true = true then x else 0` is `x` by reduction
  exact gfpart_sum_kept (fun _ _ _ _ => true) f hf1 hf2 hC hCX

theorem gfpart_sum_kept_add_dropped (keep : ℕ → ℕ → α → α → Bool) (f : ℕ → ℕ → α → α → β)
    (hf1 : ∀ i k x, f i k 0 x = 0) (hf2 : ∀ i k x, f i k x 0 = 0)
    {Cs CXs : SpMat α} {C : Matrix (Fin N) (Fin M) α} {CX : Matrix (Fin M) (Fin N) α}
    (hC : RepresentsRows Cs C) (hCX : RepresentsCols CXs CX) :
    ∃ l, compute true true keep Cs CXs = .ok l ∧
      (l.map fun x => f x.1 x.2.1 x.2.2.1 x.2.2.2).sum
        + (∑ i : Fin N, ∑ j : Fin M,
            if keep i.1 j.1 (C i j) (CX j i) then 0 else f i.1 j.1 (C i j) (CX j i))
        = ∑ i : Fin N, ∑ j : Fin M, f i.1 j.1 (C i j) (CX j i) := by
  obtain ⟨l, h1, h2⟩ := gfpart_sum_kept keep f hf1 hf2 hC hCX
  refine ⟨l, h1, ?_⟩
  rw [h2, ← Finset.sum_add_distrib]
  refine Finset.sum_congr rfl fun i _ => ?_
  rw [← Finset.sum_add_distrib]
  refine Finset.sum_congr rfl fun j _ => ?_
  split_ifs <;> simp

end Sum

section Lehmann
open Pomerol.Model.TermList
variable {N M : ℕ}

/-- a table indexed by the states of a block, as the `getWeight(n)` / `getEigenValue(n)` accessors see
it (extended by zero outside the block; the loop never asks there) -/
def natExt {n : ℕ} (v : Fin n → ℝ) : ℕ → ℝ := fun k => if h : k < n then v ⟨k, h⟩ else 0

@[simp] theorem natExt_val {n : ℕ} (v : Fin n → ℝ) (i : Fin n) : natExt v i.1 = v i := by
  simp [natExt]

/-- the value of a stored term at the complex frequency `z` (extracted `Term::operator()`) -/
noncomputable def termValue (z : ℂ) (t : Term ℂ ℝ) : ℂ := Gen.GF.termFreq t.res t.pole z

/-- the block-pair part of the Lehmann sum, with the extracted formulas: `C` the `N × M` block
`<outer|c|inner>`, `CX` the `M × N` block `<inner|c†|outer>` -/
noncomputable def blockPart (wO EO : Fin N → ℝ) (wI EI : Fin M → ℝ) (C : Matrix (Fin N) (Fin M) ℂ)
    (CX : Matrix (Fin M) (Fin N) ℂ) (z : ℂ) : ℂ :=
  ∑ i : Fin N, ∑ j : Fin M, Gen.GF.termFreq (Gen.GF.residue (C i j) (CX j i) (wO i) (wI j))
    (Gen.GF.pole (EI j) (EO i)) z

theorem term_eq_zero {c cx : ℂ} (h : c = 0 ∨ cx = 0) (wo wi ei eo : ℝ) (z : ℂ) :
    Gen.GF.termFreq (Gen.GF.residue c cx wo wi) (Gen.GF.pole ei eo) z = 0 := by
  rw [Bridge.gf_term]
  rcases h with rfl | rfl <;> simp

/-- One block pair with the residue filter as in the source (extracted test `abs(Residue) > tol`):
the terms handed to the term container PLUS the terms of the pairs the filter removes (each has
`|Residue| ≤ tol`: `filtered_residue_small`) add up to the block-pair part of the Lehmann sum. -/
theorem part_loop_refines_lehmann_filtered (wO EO : Fin N → ℝ) (wI EI : Fin M → ℝ)
    {C : Matrix (Fin N) (Fin M) ℂ} {CX : Matrix (Fin M) (Fin N) ℂ} {Cs CXs : SpMat ℂ}
    (hC : RepresentsRows Cs C) (hCX : RepresentsCols CXs CX) (tol : ℝ) (z : ℂ) :
    ∃ ts, computeTerms true true (natExt wO) (natExt wI) (natExt EO) (natExt EI) tol Cs CXs = .ok ts ∧
      (ts.map (termValue z)).sum
        + (∑ i : Fin N, ∑ j : Fin M,
            if Gen.GF.residueKept (Gen.GF.residue (C i j) (CX j i) (wO i) (wI j)) tol then 0
            else Gen.GF.termFreq (Gen.GF.residue (C i j) (CX j i) (wO i) (wI j))
              (Gen.GF.pole (EI j) (EO i)) z)
        = blockPart wO EO wI EI C CX z := by
  obtain ⟨l, h1, h2⟩ := gfpart_sum_kept_add_dropped
    (keepResidue (natExt wO) (natExt wI) tol)
    (fun i k c cx => Gen.GF.termFreq (Gen.GF.residue c cx (natExt wO i) (natExt wI k))
      (Gen.GF.pole (natExt EI k) (natExt EO i)) z)
    (fun _ _ _ => term_eq_zero (Or.inl rfl) ..) (fun _ _ _ => term_eq_zero (Or.inr rfl) ..) hC hCX
  refine ⟨l.map (toTerm (natExt wO) (natExt wI) (natExt EO) (natExt EI)), ?_, ?_⟩
  · unfold computeTerms; rw [h1]
  · rw [List.map_map]
    simp only [keepResidue, natExt_val] at h2
    exact h2

/-- residue filter idealised to "keep everything": any negative tolerance, since
`abs(Residue) ≥ 0 > tol` -/
theorem part_loop_refines_lehmann (wO EO : Fin N → ℝ) (wI EI : Fin M → ℝ)
    {C : Matrix (Fin N) (Fin M) ℂ} {CX : Matrix (Fin M) (Fin N) ℂ} {Cs CXs : SpMat ℂ}
    (hC : RepresentsRows Cs C) (hCX : RepresentsCols CXs CX) (tol : ℝ) (htol : tol < 0) (z : ℂ) :
    ∃ ts, computeTerms true true (natExt wO) (natExt wI) (natExt EO) (natExt EI) tol Cs CXs = .ok ts ∧
      (ts.map (termValue z)).sum = blockPart wO EO wI EI C CX z := by
  obtain ⟨ts, h1, h2⟩ := part_loop_refines_lehmann_filtered wO EO wI EI hC hCX tol z
  refine ⟨ts, h1, ?_⟩
  rw [← h2]
  have : ∀ r : ℂ, Gen.GF.residueKept r tol = true := fun r => by
    rw [Bridge.gf_residueKept]; exact lt_of_lt_of_le htol (norm_nonneg r)
  simp only [this, if_true, Finset.sum_const_zero, add_zero]

theorem filtered_residue_small (r : ℂ) (tol : ℝ) (h : ¬ Gen.GF.residueKept r tol = true) :
    ‖r‖ ≤ tol := by
  rw [Bridge.gf_residueKept] at h
  exact not_lt.mp h

/-- the whole eigenbasis as ONE block: the loop computes `d.lehmannG C CX z`, which is the
definition of the Green's function (`Bridge.gf_equals_definition`) -/
theorem one_block_loop_refines_lehmann (d : EigenData (Fin N)) {C CX : Matrix (Fin N) (Fin N) ℂ}
    {Cs CXs : SpMat ℂ} (hC : RepresentsRows Cs C) (hCX : RepresentsCols CXs CX)
    (tol : ℝ) (htol : tol < 0) (z : ℂ) :
    ∃ ts, computeTerms true true (natExt d.w) (natExt d.w) (natExt d.E) (natExt d.E) tol Cs CXs
        = .ok ts ∧ (ts.map (termValue z)).sum = d.lehmannG C CX z := by
  obtain ⟨ts, h1, h2⟩ := part_loop_refines_lehmann d.w d.E d.w d.E hC hCX tol htol z
  exact ⟨ts, h1, by rw [h2]; exact Bridge.gf_sum d C CX z⟩

end Lehmann

section Prepare

/-- the left view of a bimap: ordered by the left index, every left index at most once -/
def SortedByLeft (c : List (ℕ × ℕ)) : Prop := c.Pairwise fun p q => p.1 < q.1

/-- the right view of a bimap: ordered by the right index, every right index at most once -/
def SortedByRight (cx : List (ℕ × ℕ)) : Prop := cx.Pairwise fun p q => p.2 < q.2

instance (c : List (ℕ × ℕ)) : Decidable (SortedByLeft c) := by
  unfold SortedByLeft; infer_instance

instance (c : List (ℕ × ℕ)) : Decidable (SortedByRight c) := by
  unfold SortedByRight; infer_instance

/-- the block pairs `(L, R)` that must get a part: `<L|c|R>` and `<R|c†|L>` non-trivial blocks, `L` or
`R` retained -- in the order of the left view of `C` -/
def selected (retained : ℕ → Bool) (c cx : List (ℕ × ℕ)) : List (ℕ × ℕ) :=
  c.filter fun p => decide ((p.2, p.1) ∈ cx) && (retained p.1 || retained p.2)

private theorem selected_cons_right (retained : ℕ → Bool) (c cx : List (ℕ × ℕ)) (q : ℕ × ℕ)
    (h : ∀ p ∈ c, q.2 < p.1) : selected retained c (q :: cx) = selected retained c cx := by
  unfold selected
  apply List.filter_congr
  intro p hp
  have hne : (p.2, p.1) ≠ q := fun e => by subst e; exact Nat.lt_irrefl _ (h p hp)
  rw [decide_eq_decide.mpr (by rw [List.mem_cons, or_iff_right hne])]

private theorem selected_cons_left (retained : ℕ → Bool) (c cx : List (ℕ × ℕ)) (p : ℕ × ℕ)
    (h : ∀ q ∈ cx, p.1 < q.2) : selected retained (p :: c) cx = selected retained c cx := by
  unfold selected
  rw [List.filter_cons, if_neg]
  rw [Bool.and_eq_true, decide_eq_true_iff]
  exact fun hm => Nat.lt_irrefl p.1 (h _ hm.1)

theorem prepareWalk_spec (retained : ℕ → Bool) :
    ∀ fuel c cx, SortedByLeft c → SortedByRight cx → c.length + cx.length < fuel →
      prepareWalk retained fuel c cx = .ok (selected retained c cx) := by
  intro fuel
  induction fuel with
  | zero => intro c cx _ _ h; exact absurd h (Nat.not_lt_zero _)
  | succ fuel ih =>
    intro c cx hc hcx hf
    cases c with
    | nil => simp [prepareWalk, selected]
    | cons p c =>
      cases cx with
      | nil => simp [prepareWalk, selected]
      | cons q cx =>
        obtain ⟨cl, cr⟩ := p
        obtain ⟨cxl, cxr⟩ := q
        obtain ⟨hp, hc'⟩ := List.pairwise_cons.mp hc
        obtain ⟨hq, hcx'⟩ := List.pairwise_cons.mp hcx
        simp only [List.length_cons] at hf
        rw [prepareWalk]
        rcases Nat.lt_trichotomy cl cxr with hlt | heq | hgt
        · -- Cleft < CXright: only Citer advances; (cl, cr) has no partner
          have hfuel : c.length + (cx.length + 1) < fuel :=
            Nat.succ_add_eq_add_succ _ _ ▸ Nat.lt_of_succ_lt_succ hf
          rw [if_pos (Nat.le_of_lt hlt), if_neg (Nat.not_le.mpr hlt : ¬ cl ≥ cxr),
            ih c ((cxl, cxr) :: cx) hc' hcx hfuel,
            if_neg (fun h => Nat.ne_of_lt hlt h.1), selected_cons_left]
          · rfl
          · intro q' hq'
            rcases List.mem_cons.mp hq' with rfl | hq'
            · exact hlt
            · exact Nat.lt_trans hlt (hq q' hq')
        · -- Cleft = CXright: both advance; the two heads are partners iff Cright = CXleft
          subst heq
          rw [if_pos (Nat.le_refl _), if_pos (Nat.le_refl _), ih c cx hc' hcx' (by omega)]
          have hrest := selected_cons_right retained c cx (cxl, cl) hp
          unfold selected at hrest ⊢
          rw [List.filter_cons, hrest]
          have hmem : (cr, cl) ∈ (cxl, cl) :: cx ↔ cr = cxl := by
            rw [List.mem_cons, Prod.mk.injEq, and_iff_left rfl, or_iff_left]
            exact fun h => Nat.lt_irrefl cl (hq _ h)
          by_cases hcr : cr = cxl
          · subst hcr
            simp only [true_and, List.mem_cons, true_or, decide_true, Bool.true_and]
            cases retained cl || retained cr <;> rfl
          · simp only [hcr, and_false, if_false, mt hmem.mp hcr, decide_false, Bool.false_and,
              Bool.false_eq_true, List.nil_append]
        · -- Cleft > CXright: only CXiter advances; (cxl, cxr) is nobody's partner
          have hfuel : c.length + 1 + cx.length < fuel := Nat.lt_of_succ_lt_succ hf
          rw [if_neg (Nat.not_le.mpr hgt : ¬ cl ≤ cxr), if_pos (Nat.le_of_lt hgt),
            ih ((cl, cr) :: c) cx hc hcx' hfuel,
            if_neg (fun h => Nat.ne_of_gt hgt h.1), selected_cons_right]
          · rfl
          · intro p' hp'
            rcases List.mem_cons.mp hp' with rfl | hp'
            · exact hgt
            · exact Nat.lt_trans hgt (hp p' hp')

/-- `GreensFunction::prepare` CREATES EXACTLY THE MATCHING BLOCK PAIRS, in the order of `C`'s left
view.  The hypotheses are what `boost::bimap<set_of, set_of>` guarantees: both sides are keys. -/
theorem prepare_selects_matching_pairs (retained : ℕ → Bool) (c cx : List (ℕ × ℕ))
    (hc : SortedByLeft c) (hcx : SortedByRight cx) :
    prepare retained c cx = .ok (selected retained c cx) :=
  prepareWalk_spec retained _ c cx hc hcx (Nat.lt_succ_self _)

theorem prepare_parts_characterised (retained : ℕ → Bool) (c cx : List (ℕ × ℕ))
    (hc : SortedByLeft c) (hcx : SortedByRight cx) :
    ∃ parts, prepare retained c cx = .ok parts ∧ parts.Nodup ∧
      ∀ L R, (L, R) ∈ parts ↔
        (L, R) ∈ c ∧ (R, L) ∈ cx ∧ (retained L = true ∨ retained R = true) := by
  refine ⟨_, prepare_selects_matching_pairs retained c cx hc hcx, ?_, fun L R => ?_⟩
  · unfold selected
    apply List.Nodup.filter
    unfold SortedByLeft at hc
    refine List.Pairwise.imp (fun {p q} h e => ?_) hc
    rw [e] at h; exact Nat.lt_irrefl _ h
  · unfold selected
    simp [List.mem_filter]

/-- The hypothesis cannot be dropped for the walk AS AN ALGORITHM: if the left view could contain the
same left index twice (a multimap), both iterators advance past the first of the two and the second
one's partner is never seen.  Here `<1|c|3>` and `<3|c†|1>` match, but no part is created.  (Not
reachable in the library: the bimap type makes both sides keys.) -/
theorem prepare_needs_unique_keys :
    prepare (fun _ => true) [(1, 2), (1, 3)] [(3, 1)] = .ok [] ∧
      selected (fun _ => true) [(1, 2), (1, 3)] [(3, 1)] = [(1, 3)] := by
  decide

end Prepare

section Whole
open Pomerol.Model.TermList
variable {B : ℕ} {sz : Fin B → ℕ}

noncomputable def numVal (g : Fin B → Fin B → ℂ) (p : ℕ × ℕ) : ℂ :=
  if h : p.1 < B ∧ p.2 < B then g ⟨p.1, h.1⟩ ⟨p.2, h.2⟩ else 0

theorem numVal_fin (g : Fin B → Fin B → ℂ) (L R : Fin B) : numVal g (L.1, R.1) = g L R := by
  unfold numVal
  rw [dif_pos ⟨L.2, R.2⟩]

def pairCode : Fin B × Fin B ↪ ℕ × ℕ :=
  ⟨fun q => (q.1.1, q.2.1), fun q q' h => by
    simp only [Prod.mk.injEq] at h
    exact Prod.ext (Fin.ext h.1) (Fin.ext h.2)⟩

/-- THE PARTS THAT ARE NOT CREATED CONTRIBUTE NOTHING: for any summand `φ` over pairs of eigenstates
that vanishes with the matrix elements `C n m`, `CX m n` (nothing truncated: every block retained). -/
theorem selected_parts_sum (φ : Basis sz → Basis sz → ℂ) (C CX : Matrix (Basis sz) (Basis sz) ℂ)
    (hφ : ∀ n m, C n m = 0 ∨ CX m n = 0 → φ n m = 0)
    (c cx : List (ℕ × ℕ)) (hc : SortedByLeft c) (hcx : SortedByRight cx) (hcC : CoversBlocks c C)
    (hcCX : CoversBlocks cx CX) :
    ∃ parts, Pomerol.Model.GFPart.prepare (fun _ => true) c cx = .ok parts ∧ (∀ p ∈ parts, p ∈ c) ∧
      (parts.map (numVal fun L R => ∑ i, ∑ j, φ ⟨L, i⟩ ⟨R, j⟩)).sum = ∑ n, ∑ m, φ n m := by
  obtain ⟨parts, hp, hnd, hmem⟩ := prepare_parts_characterised (fun _ => true) c cx hc hcx
  refine ⟨parts, hp, fun p hpm => ((hmem p.1 p.2).mp hpm).1, ?_⟩
  rw [sum_list_eq_sum_coded pairCode parts hnd]
  · -- pure regrouping of the double sum
    rw [sum_sigma_pairs, Fintype.sum_prod_type]
    exact Finset.sum_congr rfl fun L _ => Finset.sum_congr rfl fun R _ => numVal_fin _ L R
  · -- a pair of numbers that are not block numbers
    intro p _ hp'
    unfold numVal
    rw [dif_neg]
    exact fun h => hp' ⟨(⟨p.1, h.1⟩, ⟨p.2, h.2⟩), rfl⟩
  · -- a pair of blocks that got no part: one of the two blocks is trivial
    rintro ⟨L, R⟩ hLR
    change numVal _ (L.1, R.1) = 0
    rw [numVal_fin]
    refine Finset.sum_eq_zero fun i _ => Finset.sum_eq_zero fun j _ => hφ _ _ ?_
    by_cases h : (L.1, R.1) ∈ c
    · exact Or.inr (hcCX.entry_eq_zero (fun h' => hLR ((hmem L.1 R.1).mpr ⟨h, h', Or.inl rfl⟩)) j i)
    · exact Or.inl (hcC.entry_eq_zero h i j)

/-- the tables `w b n` / `E b n` (state `n` of block `b`) the parts see -/
noncomputable def blockTable (v : Basis sz → ℝ) : ℕ → ℕ → ℝ :=
  fun b n => if h : b < B then natExt (fun i : Fin (sz ⟨b, h⟩) => v ⟨⟨b, h⟩, i⟩) n else 0

theorem blockTable_fin (v : Basis sz → ℝ) (L : Fin B) :
    blockTable v L.1 = natExt (fun i => v ⟨L, i⟩) := by
  funext n
  unfold blockTable
  rw [dif_pos L.2]

/-- `for(iter = parts.begin(); …) (*iter)->compute();` -- `cp` is `GFPart.computeParts` or
`SuscPart.computeParts`; the two hypotheses are read off its defining equations -/
theorem partsLoop_spec {ε γ : Type}
    (cp : (ℕ → ℕ → Except ε γ) → List (ℕ × ℕ) → Except ε (List γ)) (hnil : ∀ F, cp F [] = .ok [])
    (hcons : ∀ F l r ps s rest, F l r = .ok s → cp F ps = .ok rest →
      cp F ((l, r) :: ps) = .ok (s :: rest))
    (F : ℕ → ℕ → Except ε γ)
    (val : γ → ℂ) (g : ℕ × ℕ → ℂ) :
    ∀ parts : List (ℕ × ℕ), (∀ p ∈ parts, ∃ y, F p.1 p.2 = .ok y ∧ val y = g p) →
      ∃ ys, cp F parts = .ok ys ∧ (ys.map val).sum = (parts.map g).sum := by
  intro parts
  induction parts with
  | nil => intro _; exact ⟨[], hnil F, rfl⟩
  | cons p ps ih =>
    intro h
    obtain ⟨y, h1, h2⟩ := h p List.mem_cons_self
    obtain ⟨ys, h3, h4⟩ := ih fun q hq => h q (List.mem_cons_of_mem _ hq)
    refine ⟨y :: ys, ?_, ?_⟩
    · exact hcons F p.1 p.2 ps y ys h1 h3
    · rw [List.map_cons, List.sum_cons, List.map_cons, List.sum_cons, h2, h4]

/-- THE LOOP OVER THE PREPARED PARTS COMPUTES THE FULL DOUBLE SUM as soon as the part of every pair of
blocks computes that pair's share: `prepare` succeeds, the loop `cp` over the parts it created succeeds,
and the values add up to `∑ n m, φ n m`.  `hrange` speaks of `c` only: a part is created only for a pair
listed in `c`, so a pair of `cx` beyond the block numbers never becomes a part.  Shared by the Green's
function and the susceptibility. -/
theorem prepared_parts_sum {ε γ : Type}
    (cp : (ℕ → ℕ → Except ε γ) → List (ℕ × ℕ) → Except ε (List γ)) (hnil : ∀ F, cp F [] = .ok [])
    (hcons : ∀ F l r ps s rest, F l r = .ok s → cp F ps = .ok rest →
      cp F ((l, r) :: ps) = .ok (s :: rest))
    (φ : Basis sz → Basis sz → ℂ) (C CX : Matrix (Basis sz) (Basis sz) ℂ)
    (hφ : ∀ n m, C n m = 0 ∨ CX m n = 0 → φ n m = 0)
    (c cx : List (ℕ × ℕ)) (hc : SortedByLeft c) (hcx : SortedByRight cx) (hcC : CoversBlocks c C)
    (hcCX : CoversBlocks cx CX) (hrange : ∀ p ∈ c, p.1 < B ∧ p.2 < B)
    (F : ℕ → ℕ → Except ε γ) (val : γ → ℂ)
    (hF : ∀ L R : Fin B, ∃ y, F L.1 R.1 = .ok y ∧ val y = ∑ i, ∑ j, φ ⟨L, i⟩ ⟨R, j⟩) :
    ∃ parts ys, Pomerol.Model.GFPart.prepare (fun _ => true) c cx = .ok parts ∧
      cp F parts = .ok ys ∧ (ys.map val).sum = ∑ n, ∑ m, φ n m := by
  obtain ⟨parts, hp, hsub, hsum⟩ := selected_parts_sum φ C CX hφ c cx hc hcx hcC hcCX
  obtain ⟨ys, h1, h2⟩ := partsLoop_spec cp hnil hcons F val
    (numVal fun L R => ∑ i, ∑ j, φ ⟨L, i⟩ ⟨R, j⟩) parts (by
      rintro ⟨l, r⟩ hpm
      obtain ⟨hl, hr⟩ := hrange _ (hsub _ hpm)
      obtain ⟨y, t1, t2⟩ := hF ⟨l, hl⟩ ⟨r, hr⟩
      exact ⟨y, t1, t2.trans
        (Eq.symm (numVal_fin (fun L R => ∑ i, ∑ j, φ ⟨L, i⟩ ⟨R, j⟩) ⟨l, hl⟩ ⟨r, hr⟩))⟩)
  exact ⟨parts, ys, hp, h1, h2.trans hsum⟩

end Whole

end Pomerol.Spec.GFRefine
