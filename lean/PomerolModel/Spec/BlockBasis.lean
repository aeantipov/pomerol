/-
  An eigenbasis split into blocks, `Basis sz = Σ b, Fin (sz b)`: the blocks of a matrix over it and
  what it means for a block bimap to list them.  Shared by the refinements of the Green's function, the
  susceptibility (`Spec/GFRefine.lean`, `Spec/SuscRefine.lean`) and the two-particle Green's function
  (`Spec/Chi4PrepareSpec.lean`); the namespace is `GFRefine` because the names are those under which the
  property statements use them.
-/
import Mathlib.LinearAlgebra.Matrix.Defs
import Mathlib.Data.Complex.Basic

namespace Pomerol.Spec.GFRefine

variable {B : ℕ} {sz : Fin B → ℕ}

abbrev Basis (sz : Fin B → ℕ) := Σ b : Fin B, Fin (sz b)

def block (A : Matrix (Basis sz) (Basis sz) ℂ) (L R : Fin B) :
    Matrix (Fin (sz L)) (Fin (sz R)) ℂ := fun i j => A ⟨L, i⟩ ⟨R, j⟩

/-- the bimap `c` lists (at least) all non-trivial blocks of `A` -/
def CoversBlocks (c : List (ℕ × ℕ)) (A : Matrix (Basis sz) (Basis sz) ℂ) : Prop :=
  ∀ L R : Fin B, block A L R ≠ 0 → (L.1, R.1) ∈ c

theorem CoversBlocks.entry_eq_zero {c : List (ℕ × ℕ)} {A : Matrix (Basis sz) (Basis sz) ℂ}
    (h : CoversBlocks c A) {L R : Fin B} (hn : (L.1, R.1) ∉ c) (i : Fin (sz L)) (j : Fin (sz R)) :
    A ⟨L, i⟩ ⟨R, j⟩ = 0 := by
  by_contra h0
  exact hn (h L R fun e => h0 (congrFun (congrFun e i) j))

theorem coversBlocks_of_entries (c : List (ℕ × ℕ)) (A : Matrix (Basis sz) (Basis sz) ℂ)
    (h : ∀ n m, A n m ≠ 0 → (n.1.1, m.1.1) ∈ c) : CoversBlocks c A := by
  intro L R hne
  by_contra hn
  apply hne
  ext i j
  by_contra h0
  exact hn (h ⟨L, i⟩ ⟨R, j⟩ h0)

theorem coversBlocks_single (a b : Fin B) (v : ℂ) :
    CoversBlocks [(a.1, b.1)] (fun n m : Basis sz => if n.1 = a ∧ m.1 = b then v else 0) :=
  coversBlocks_of_entries _ _ fun n m h => by
    by_cases hc : n.1 = a ∧ m.1 = b
    · rw [hc.1, hc.2]; exact List.mem_singleton.mpr rfl
    · exact absurd (if_neg hc) h

end Pomerol.Spec.GFRefine
