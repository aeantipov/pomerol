/-
  Eigenbasis operators (property C10): conjugation `A ↦ Vᴴ A V` with the eigenvector matrix is
  multiplicative for unitary `V` and can be undone; for a block-diagonal `V` its `(l, r)` block is
  `U_lᴴ A_lr U_r`.  The statements of C10 built on these are in `Properties/C10.lean`;
  `sum_blockDiagonal'_col` and `rotate_back` also serve C09 (`Spec/AveragesSpec.lean`), `rotated_mul`
  the change of basis `V · V⁻¹` of `Spec/Lehmann.lean`.
-/
import Mathlib.LinearAlgebra.Matrix.ConjTranspose
import Mathlib.Data.Complex.Basic
import Mathlib.Data.Matrix.Mul
import Mathlib.Data.Matrix.Block
import Mathlib.Data.Fintype.BigOperators
import Mathlib.Algebra.BigOperators.Group.Finset.Piecewise

namespace Pomerol.Spec
open Matrix

variable {σ : Type} [Fintype σ] [DecidableEq σ]

/-- conjugating a product: the inner `V * W` cancels (`W = Vᴴ` for a unitary `V`, `W = V⁻¹` in
general) -/
theorem rotated_mul {V W : Matrix σ σ ℂ} (h : V * W = 1) (A B : Matrix σ σ ℂ) :
    (W * A * V) * (W * B * V) = W * (A * B) * V := by
  calc (W * A * V) * (W * B * V) = W * A * (V * W) * B * V := by
        simp only [← Matrix.mul_assoc]
    _ = W * (A * B) * V := by rw [h, Matrix.mul_one, Matrix.mul_assoc W A B]

theorem rotate_back (V A : Matrix σ σ ℂ) (hV : V * Vᴴ = 1) : V * (Vᴴ * A * V) * Vᴴ = A := by
  calc V * (Vᴴ * A * V) * Vᴴ = (V * Vᴴ) * A * (V * Vᴴ) := by simp only [← Matrix.mul_assoc]
    _ = A := by rw [hV, Matrix.one_mul, Matrix.mul_one]

section Block
variable {B : Type} [Fintype B] [DecidableEq B] {m : B → Type} [∀ b, Fintype (m b)]

theorem sum_blockDiagonal'_col {M : Type} [AddCommMonoid M] (U : ∀ b, Matrix (m b) (m b) ℂ)
    (G : (Σ b, m b) → ℂ → M) (hG : ∀ k, G k 0 = 0) (b : B) (s : m b) :
    ∑ k, G k (blockDiagonal' U k ⟨b, s⟩) = ∑ i, G ⟨b, i⟩ (U b i s) := by
  rw [Fintype.sum_sigma, Finset.sum_eq_single_of_mem b (Finset.mem_univ b)]
  · exact Finset.sum_congr rfl fun i _ => by rw [blockDiagonal'_apply_eq]
  · intro b' _ hne
    exact Finset.sum_eq_zero fun i _ => by rw [blockDiagonal'_apply_ne _ _ _ hne, hG]

theorem rotated_block (U : ∀ b, Matrix (m b) (m b) ℂ) (A : Matrix (Σ b, m b) (Σ b, m b) ℂ)
    (l r : B) (n : m l) (j : m r) :
    ((blockDiagonal' U)ᴴ * A * blockDiagonal' U) ⟨l, n⟩ ⟨r, j⟩
      = ∑ c : m r, (∑ i : m l, (starRingEnd ℂ) (U l i n) * A ⟨l, i⟩ ⟨r, c⟩) * U r c j := by
  rw [Matrix.mul_apply, sum_blockDiagonal'_col U
    (fun k z => ((blockDiagonal' U)ᴴ * A) ⟨l, n⟩ k * z) (fun k => mul_zero _)]
  refine Finset.sum_congr rfl fun c _ => ?_
  rw [Matrix.mul_apply]
  simp only [conjTranspose_apply]
  rw [sum_blockDiagonal'_col U (fun k z => star z * A k ⟨r, c⟩)
    (fun k => by rw [star_zero, zero_mul])]
  rfl

end Block

end Pomerol.Spec
