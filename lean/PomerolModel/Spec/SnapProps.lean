/-
  The first-come identification of quantum numbers that agree within a tolerance
  (`StatesClassification::compute`, models `snap`, `snapRow`, `snapAll` of `Model/Symm.lean`):
  nothing changes under exact comparison, every value is replaced by a raw value of an
  earlier-or-equal state it is close to, equal raw values are never separated, and when `close`
  is an equivalence on the occurring values the identification groups exactly the close ones.
  Core Lean only.
-/
import PomerolModel.Model.Symm

namespace Pomerol.Spec.Snap
open Pomerol.Model.Symm

variable {Q : Type}

/-- raw/snapped value of operation `n` for state `s` -/
def entry {Q : Type} (rows : List (List Q)) (s n : Nat) : Option Q := (rows[s]?).bind (·[n]?)

def WellShaped {Q : Type} (nops : Nat) (rows : List (List Q)) : Prop := ∀ r ∈ rows, r.length = nops

def col {Q : Type} (rows : List (List Q)) (n : Nat) : List Q := rows.filterMap (·[n]?)

structure IsEquivOn {Q : Type} (close : Q → Q → Bool) (l : List Q) : Prop where
  refl : ∀ a ∈ l, close a a = true
  symm : ∀ a ∈ l, ∀ b ∈ l, close a b = true → close b a = true
  trans : ∀ a ∈ l, ∀ b ∈ l, ∀ c ∈ l, close a b = true → close b c = true → close a c = true

section Snap
variable (close : Q → Q → Bool)

theorem snap_some {known : List Q} {v k : Q} (h : known.find? (fun k => close v k) = some k) :
    snap close known v = (k, known) := by
  unfold snap; rw [h]

theorem snap_none {known : List Q} {v : Q} (h : known.find? (fun k => close v k) = none) :
    snap close known v = (v, known ++ [v]) := by
  unfold snap; rw [h]

theorem snap_fst_mem_or (known : List Q) (v : Q) :
    (snap close known v).1 ∈ known ∨ (snap close known v).1 = v := by
  cases h : known.find? (fun k => close v k) with
  | some k => rw [snap_some close h]; exact Or.inl (List.mem_of_find?_eq_some h)
  | none => rw [snap_none close h]; exact Or.inr rfl

theorem snap_snd_mem (known : List Q) (v x : Q) (hx : x ∈ (snap close known v).2) :
    x ∈ known ∨ x = v := by
  cases h : known.find? (fun k => close v k) with
  | some k => rw [snap_some close h] at hx; exact Or.inl hx
  | none =>
    rw [snap_none close h] at hx
    rcases List.mem_append.1 hx with hx | hx
    · exact Or.inl hx
    · exact Or.inr (List.mem_singleton.1 hx)

theorem snap_exact [DecidableEq Q] (known : List Q) (v : Q) :
    (snap (fun a b => decide (a = b)) known v).1 = v := by
  cases h : known.find? (fun k => decide (v = k)) with
  | some k =>
    rw [snap_some _ h]
    have := List.find?_some h
    exact (of_decide_eq_true this).symm
  | none => rw [snap_none _ h]

theorem find?_congr' {p q : Q → Bool} (l : List Q) (h : ∀ k, k ∈ l → p k = q k) :
    l.find? p = l.find? q := by
  induction l with
  | nil => rfl
  | cons x l ih =>
    simp only [List.find?_cons, h x List.mem_cons_self]
    rw [ih (fun k hk => h k (List.mem_cons_of_mem _ hk))]

theorem snap_spec (known : List Q) (v : Q) :
    ∃ e, (snap close known v).2 = known ++ e ∧ (∀ x ∈ e, x = v) ∧
      (close v v = true →
        (known ++ e).find? (fun k => close v k) = some (snap close known v).1) := by
  cases h : known.find? (fun k => close v k) with
  | some k =>
    rw [snap_some close h]
    refine ⟨[], (List.append_nil _).symm, ?_, ?_⟩
    · intro x hx
      cases hx
    · intro _
      rw [List.append_nil]
      exact h
  | none =>
    rw [snap_none close h]
    refine ⟨[v], rfl, ?_, ?_⟩
    · intro x hx
      exact List.mem_singleton.1 hx
    · intro hv
      rw [List.find?_append, h, List.find?_cons, hv]
      rfl

end Snap

def colOut (close : Q → Q → Bool) : List Q → List Q → List Q
  | _, [] => []
  | known, v :: vs => (snap close known v).1 :: colOut close (snap close known v).2 vs

section Column
variable (close : Q → Q → Bool)

theorem colOut_length (known vs : List Q) : (colOut close known vs).length = vs.length := by
  induction vs generalizing known with
  | nil => rfl
  | cons v vs ih => simp only [colOut, List.length_cons, ih]

theorem colOut_exact [DecidableEq Q] (known vs : List Q) :
    colOut (fun a b => decide (a = b)) known vs = vs := by
  induction vs generalizing known with
  | nil => rfl
  | cons v vs ih => simp only [colOut, snap_exact, ih]

/-- First-come identification is a lookup in the FINAL list of representatives: the known values
end up as `known ++ e` with `e` taken from the column, and every value (that is close to itself) is
replaced by the first value of this list it is close to.  (The list only grows at its end, and a
lookup that has succeeded in a list succeeds with the same answer in every extension of it.) -/
theorem colOut_eq_find (known vs : List Q) :
    ∃ e, (∀ x ∈ e, x ∈ vs) ∧ ∀ (i : Nat) (v : Q), vs[i]? = some v → close v v = true →
      ∃ r, (colOut close known vs)[i]? = some r ∧
        (known ++ e).find? (fun k => close v k) = some r := by
  induction vs generalizing known with
  | nil =>
    refine ⟨[], ?_, ?_⟩
    · intro x hx
      cases hx
    · intro i v hi
      simp at hi
  | cons x vs ih =>
    obtain ⟨e₁, hknown, he₁, hx⟩ := snap_spec close known x
    obtain ⟨e₂, he₂, hvs⟩ := ih (snap close known x).2
    refine ⟨e₁ ++ e₂, ?_, ?_⟩
    · intro y hy
      rcases List.mem_append.1 hy with h | h
      · rw [he₁ y h]
        exact List.mem_cons_self
      · exact List.mem_cons_of_mem _ (he₂ y h)
    · intro i v hi hv
      rw [← List.append_assoc]
      cases i with
      | zero =>
        simp only [List.getElem?_cons_zero, Option.some.injEq] at hi
        subst hi
        refine ⟨(snap close known x).1, ?_, ?_⟩
        · simp only [colOut, List.getElem?_cons_zero]
        · rw [List.find?_append, hx hv]
          rfl
      | succ i =>
        simp only [List.getElem?_cons_succ] at hi
        rw [← hknown]
        simpa only [colOut, List.getElem?_cons_succ] using hvs i v hi hv

theorem colOut_close (known vs : List Q) (i : Nat) (v : Q) (hv : vs[i]? = some v)
    (hr : close v v = true) :
    ∃ v', (colOut close known vs)[i]? = some v' ∧ close v v' = true := by
  obtain ⟨e, -, hfind⟩ := colOut_eq_find close known vs
  obtain ⟨r, hout, hr⟩ := hfind i v hv hr
  exact ⟨r, hout, List.find?_some hr⟩

theorem colOut_raw (known vs : List Q) (i : Nat) (v' : Q)
    (hv : (colOut close known vs)[i]? = some v') :
    v' ∈ known ∨ ∃ j, j ≤ i ∧ vs[j]? = some v' := by
  induction vs generalizing known i with
  | nil => simp [colOut] at hv
  | cons x vs ih =>
    cases i with
    | zero =>
      simp only [colOut, List.getElem?_cons_zero, Option.some.injEq] at hv
      subst hv
      rcases snap_fst_mem_or close known x with h | h
      · exact Or.inl h
      · exact Or.inr ⟨0, Nat.le_refl _, by simp only [List.getElem?_cons_zero, h]⟩
    | succ i =>
      simp only [colOut, List.getElem?_cons_succ] at hv
      rcases ih _ i hv with h | ⟨j, hj, h⟩
      · rcases snap_snd_mem close known x v' h with h | h
        · exact Or.inl h
        · exact Or.inr ⟨0, Nat.zero_le _, by simp only [List.getElem?_cons_zero, h]⟩
      · exact Or.inr ⟨j + 1, Nat.succ_le_succ hj, by simpa only [List.getElem?_cons_succ] using h⟩

theorem colOut_stable (known vs : List Q) (v : Q) (hr : close v v = true) (i j : Nat)
    (hi : vs[i]? = some v) (hj : vs[j]? = some v) :
    (colOut close known vs)[i]? = (colOut close known vs)[j]? := by
  obtain ⟨e, -, hfind⟩ := colOut_eq_find close known vs
  obtain ⟨r, houti, hri⟩ := hfind i v hi hr
  obtain ⟨r', houtj, hrj⟩ := hfind j v hj hr
  rw [houti, houtj, ← hri, ← hrj]

theorem colOut_iff_close (vs : List Q) (he : IsEquivOn close vs) (i j : Nat) (v w : Q)
    (hi : vs[i]? = some v) (hj : vs[j]? = some w) :
    (colOut close [] vs)[i]? = (colOut close [] vs)[j]? ↔ close v w = true := by
  have hvm : v ∈ vs := List.mem_of_getElem? hi
  have hwm : w ∈ vs := List.mem_of_getElem? hj
  obtain ⟨e, hsub, hfind⟩ := colOut_eq_find close [] vs
  obtain ⟨r, houti, hr⟩ := hfind i v hi (he.refl v hvm)
  obtain ⟨r', houtj, hr'⟩ := hfind j w hj (he.refl w hwm)
  rw [houti, houtj]
  rw [List.nil_append] at hr hr'
  constructor
  · -- both found the same representative
    intro h
    rw [← Option.some.inj h] at hr'
    have hrm : r ∈ vs := hsub r (List.mem_of_find?_eq_some hr)
    have hvr : close v r = true := List.find?_some hr
    have hwr : close w r = true := List.find?_some hr'
    exact he.trans v hvm r hrm w hwm hvr (he.symm w hwm r hrm hwr)
  · -- close values judge every representative alike, so their lookups agree
    intro h
    have h' : close w v = true := he.symm v hvm w hwm h
    have hsame : e.find? (fun k => close v k) = e.find? (fun k => close w k) := by
      apply find?_congr'
      intro k hk
      have hkm : k ∈ vs := hsub k hk
      rw [Bool.eq_iff_iff]
      exact ⟨fun hvk => he.trans w hwm v hvm k hkm h' hvk,
        fun hwk => he.trans v hvm w hwm k hkm h hwk⟩
    rw [← hr, ← hr', hsame]

end Column

section Row
variable (close : Q → Q → Bool)

theorem snapRow_getElem? (ks : List (List Q)) (vs : List Q) (n : Nat) (k : List Q) (v : Q)
    (hk : ks[n]? = some k) (hv : vs[n]? = some v) :
    (snapRow close ks vs).1[n]? = some (snap close k v).1 ∧
    (snapRow close ks vs).2[n]? = some (snap close k v).2 := by
  induction ks generalizing vs n with
  | nil => simp at hk
  | cons k0 ks ih =>
    cases vs with
    | nil => simp at hv
    | cons v0 vs =>
      cases n with
      | zero =>
        simp only [List.getElem?_cons_zero, Option.some.injEq] at hk hv
        subst hk; subst hv
        simp only [snapRow, List.getElem?_cons_zero, and_self]
      | succ n =>
        simp only [List.getElem?_cons_succ] at hk hv
        simpa only [snapRow, List.getElem?_cons_succ] using ih vs n hk hv

theorem snapRow_exact [DecidableEq Q] : ∀ (ks : List (List Q)) (vs : List Q),
    (snapRow (fun a b => decide (a = b)) ks vs).1 = vs
  | [], _ => by simp only [snapRow]
  | _ :: _, [] => by simp only [snapRow]
  | k :: ks, v :: vs => by simp only [snapRow, snap_exact, snapRow_exact ks vs]

theorem snapRow_length (ks : List (List Q)) (vs : List Q) (h : ks.length = vs.length) :
    (snapRow close ks vs).1.length = vs.length ∧ (snapRow close ks vs).2.length = ks.length := by
  induction ks generalizing vs with
  | nil => simp [snapRow]
  | cons k0 ks ih =>
    cases vs with
    | nil => simp at h
    | cons v0 vs =>
      have := ih vs (Nat.succ.inj h)
      simp only [snapRow, List.length_cons, this, and_self]

end Row

def rowsOut (close : Q → Q → Bool) : List (List Q) → List (List Q) → List (List Q)
  | _, [] => []
  | ks, row :: rows => (snapRow close ks row).1 :: rowsOut close (snapRow close ks row).2 rows

section All
variable (close : Q → Q → Bool)

theorem foldl_eq_rowsOut (acc ks rows : List (List Q)) :
    (rows.foldl (fun (acc : List (List Q) × List (List Q)) row =>
      let r := snapRow close acc.2 row
      (acc.1 ++ [r.1], r.2)) (acc, ks)).1 = acc ++ rowsOut close ks rows := by
  induction rows generalizing acc ks with
  | nil => simp only [List.foldl_nil, rowsOut, List.append_nil]
  | cons row rows ih =>
    simp only [List.foldl_cons, rowsOut]
    rw [ih]
    simp only [List.append_assoc, List.singleton_append]

theorem snapAll_eq_rowsOut (nops : Nat) (rows : List (List Q)) :
    snapAll close nops rows = rowsOut close (List.replicate nops []) rows := by
  unfold snapAll
  rw [foldl_eq_rowsOut]; rfl

theorem rowsOut_length (ks rows : List (List Q)) :
    (rowsOut close ks rows).length = rows.length := by
  induction rows generalizing ks with
  | nil => rfl
  | cons row rows ih => simp only [rowsOut, List.length_cons, ih]

theorem rowsOut_exact [DecidableEq Q] (ks rows : List (List Q)) :
    rowsOut (fun a b => decide (a = b)) ks rows = rows := by
  induction rows generalizing ks with
  | nil => rfl
  | cons row rows ih => simp only [rowsOut, snapRow_exact, ih]

theorem wellShaped_cons {nops : Nat} {row : List Q} {rows : List (List Q)} :
    WellShaped nops (row :: rows) ↔ row.length = nops ∧ WellShaped nops rows := by
  simp only [WellShaped, List.mem_cons, forall_eq_or_imp]

theorem rowsOut_wellShaped (nops : Nat) (ks rows : List (List Q)) (hk : ks.length = nops)
    (h : WellShaped nops rows) : WellShaped nops (rowsOut close ks rows) := by
  induction rows generalizing ks with
  | nil => intro r hr; simp [rowsOut] at hr
  | cons row rows ih =>
    obtain ⟨h1, h2⟩ := wellShaped_cons.1 h
    have hl := snapRow_length close ks row (hk.trans h1.symm)
    simp only [rowsOut]
    exact wellShaped_cons.2 ⟨hl.1.trans h1, ih _ (hl.2.trans hk) h2⟩

theorem entry_cons_zero (row : List Q) (rows : List (List Q)) (n : Nat) :
    entry (row :: rows) 0 n = row[n]? := by
  simp only [entry, List.getElem?_cons_zero, Option.bind_some]

theorem entry_cons_succ (row : List Q) (rows : List (List Q)) (s n : Nat) :
    entry (row :: rows) (s + 1) n = entry rows s n := by
  simp only [entry, List.getElem?_cons_succ]

theorem entry_some_lt {nops : Nat} {rows : List (List Q)} (h : WellShaped nops rows) {s n : Nat}
    {v : Q} (hv : entry rows s n = some v) : s < rows.length ∧ n < nops := by
  unfold entry at hv
  cases hr : rows[s]? with
  | none => rw [hr] at hv; simp at hv
  | some r =>
    rw [hr] at hv
    simp only [Option.bind_some] at hv
    have hs : s < rows.length := (List.getElem?_eq_some_iff.1 hr).1
    have hn : n < r.length := (List.getElem?_eq_some_iff.1 hv).1
    exact ⟨hs, h r (List.mem_of_getElem? hr) ▸ hn⟩

theorem entry_eq_col {nops : Nat} {rows : List (List Q)} (h : WellShaped nops rows) (s n : Nat)
    (hn : n < nops) : entry rows s n = (col rows n)[s]? := by
  induction rows generalizing s with
  | nil => simp [entry, col]
  | cons row rows ih =>
    obtain ⟨h1, h2⟩ := wellShaped_cons.1 h
    have hlt : n < row.length := h1 ▸ hn
    have hc : col (row :: rows) n = row[n] :: col rows n := by
      simp only [col, List.filterMap_cons, List.getElem?_eq_getElem hlt]
    rw [hc]
    cases s with
    | zero => simp only [entry_cons_zero, List.getElem?_cons_zero, List.getElem?_eq_getElem hlt]
    | succ s => simp only [entry_cons_succ, List.getElem?_cons_succ]; exact ih h2 s

/-- the rows decompose column-wise -/
theorem rowsOut_entry {nops : Nat} (ks rows : List (List Q)) (hk : ks.length = nops)
    (h : WellShaped nops rows) (s n : Nat) (k : List Q) (hkn : ks[n]? = some k) :
    entry (rowsOut close ks rows) s n = (colOut close k (col rows n))[s]? := by
  have hn : n < nops := hk ▸ (List.getElem?_eq_some_iff.1 hkn).1
  induction rows generalizing ks s k with
  | nil => simp [entry, col, rowsOut, colOut]
  | cons row rows ih =>
    obtain ⟨h1, h2⟩ := wellShaped_cons.1 h
    have hlt : n < row.length := h1 ▸ hn
    have hc : col (row :: rows) n = row[n] :: col rows n := by
      simp only [col, List.filterMap_cons, List.getElem?_eq_getElem hlt]
    have hl := snapRow_length close ks row (hk.trans h1.symm)
    have hg := snapRow_getElem? close ks row n k row[n] hkn (List.getElem?_eq_getElem hlt)
    rw [hc]
    simp only [rowsOut, colOut]
    cases s with
    | zero => simp only [entry_cons_zero, List.getElem?_cons_zero, hg.1]
    | succ s =>
      simp only [entry_cons_succ, List.getElem?_cons_succ]
      exact ih _ (hl.2.trans hk) h2 s _ hg.2

theorem snapAll_entry {nops : Nat} {rows : List (List Q)} (h : WellShaped nops rows) (s n : Nat)
    (hn : n < nops) :
    entry (snapAll close nops rows) s n = (colOut close [] (col rows n))[s]? := by
  rw [snapAll_eq_rowsOut]
  refine rowsOut_entry close _ rows List.length_replicate h s n [] ?_
  rw [List.getElem?_replicate, if_pos hn]

end All

section Main
variable {close : Q → Q → Bool} {nops : Nat} {rows : List (List Q)}

theorem snapAll_length : (snapAll close nops rows).length = rows.length := by
  rw [snapAll_eq_rowsOut, rowsOut_length]

theorem snapAll_wellShaped (h : WellShaped nops rows) :
    WellShaped nops (snapAll close nops rows) := by
  rw [snapAll_eq_rowsOut]
  exact rowsOut_wellShaped close nops _ rows List.length_replicate h

/-- (whatever the shape of the rows) -/
theorem snapAll_exact [DecidableEq Q] : snapAll (fun a b => decide (a = b)) nops rows = rows := by
  rw [snapAll_eq_rowsOut, rowsOut_exact]

theorem snapAll_close (hrefl : ∀ v, close v v = true) (h : WellShaped nops rows) (s n : Nat)
    (v : Q) (hv : entry rows s n = some v) :
    ∃ v', entry (snapAll close nops rows) s n = some v' ∧ close v v' = true := by
  have hn := (entry_some_lt h hv).2
  rw [snapAll_entry close h s n hn]
  rw [entry_eq_col h s n hn] at hv
  exact colOut_close close [] _ s v hv (hrefl v)

theorem snapAll_representative_is_raw (h : WellShaped nops rows) (s n : Nat) (v' : Q)
    (hv : entry (snapAll close nops rows) s n = some v') :
    ∃ t, t ≤ s ∧ entry rows t n = some v' := by
  have hn := (entry_some_lt (snapAll_wellShaped h) hv).2
  rw [snapAll_entry close h s n hn] at hv
  rcases colOut_raw close [] _ s v' hv with hm | ⟨j, hj, hm⟩
  · simp at hm
  · exact ⟨j, hj, by rw [entry_eq_col h j n hn]; exact hm⟩

/-- (reflexivity of `close` at the value is needed: see the counterexample below) -/
theorem snapAll_stable (hrefl : ∀ v, close v v = true) (h : WellShaped nops rows) (s t n : Nat)
    (v : Q) (hs : entry rows s n = some v) (ht : entry rows t n = some v) :
    entry (snapAll close nops rows) s n = entry (snapAll close nops rows) t n := by
  have hn := (entry_some_lt h hs).2
  rw [snapAll_entry close h s n hn, snapAll_entry close h t n hn]
  rw [entry_eq_col h s n hn] at hs
  rw [entry_eq_col h t n hn] at ht
  exact colOut_stable close [] _ v (hrefl v) s t hs ht

theorem snapAll_iff_close {n : Nat} (h : WellShaped nops rows) (he : IsEquivOn close (col rows n))
    (s t : Nat) (v w : Q) (hs : entry rows s n = some v) (ht : entry rows t n = some w) :
    (entry (snapAll close nops rows) s n = entry (snapAll close nops rows) t n) ↔
      close v w = true := by
  have hn := (entry_some_lt h hs).2
  rw [snapAll_entry close h s n hn, snapAll_entry close h t n hn]
  rw [entry_eq_col h s n hn] at hs
  rw [entry_eq_col h t n hn] at ht
  exact colOut_iff_close close _ he s t v w hs ht

theorem snapAll_rows_iff (h : WellShaped nops rows)
    (he : ∀ n, n < nops → IsEquivOn close (col rows n)) (s t : Nat) (hs : s < rows.length)
    (ht : t < rows.length) :
    (snapAll close nops rows)[s]? = (snapAll close nops rows)[t]? ↔
      ∀ n, n < nops → ∃ v w, entry rows s n = some v ∧ entry rows t n = some w ∧
        close v w = true := by
  have hw := snapAll_wellShaped (close := close) h
  have hs' : s < (snapAll close nops rows).length := by rw [snapAll_length]; exact hs
  have ht' : t < (snapAll close nops rows).length := by rw [snapAll_length]; exact ht
  have raw : ∀ u, (hu : u < rows.length) → ∀ n, n < nops → ∃ v, entry rows u n = some v := by
    intro u hu n hn
    have hl : n < (rows[u]).length := (h _ (List.getElem_mem hu)) ▸ hn
    exact ⟨(rows[u])[n], by
      simp only [entry, List.getElem?_eq_getElem hu, Option.bind_some, List.getElem?_eq_getElem hl]⟩
  have hrow : (snapAll close nops rows)[s]? = (snapAll close nops rows)[t]? ↔
      ∀ n, entry (snapAll close nops rows) s n = entry (snapAll close nops rows) t n := by
    simp only [entry, List.getElem?_eq_getElem hs', List.getElem?_eq_getElem ht',
      Option.bind_some, Option.some.injEq]
    exact ⟨fun e n => by rw [e], fun e => List.ext_getElem? e⟩
  rw [hrow]
  constructor
  · intro e n hn
    obtain ⟨v, hv⟩ := raw s hs n hn
    obtain ⟨w, hw⟩ := raw t ht n hn
    exact ⟨v, w, hv, hw, (snapAll_iff_close h (he n hn) s t v w hv hw).1 (e n)⟩
  · intro e n
    by_cases hn : n < nops
    · obtain ⟨v, w, hv, hw, hc⟩ := e n hn
      exact (snapAll_iff_close h (he n hn) s t v w hv hw).2 hc
    · cases h1 : entry (snapAll close nops rows) s n with
      | some v => exact absurd (entry_some_lt hw h1).2 hn
      | none =>
        cases h2 : entry (snapAll close nops rows) t n with
        | some v => exact absurd (entry_some_lt hw h2).2 hn
        | none => rfl

end Main

/-- tolerance `|a - b| ≤ 1` on natural numbers -/
def near (a b : Nat) : Bool := decide (max a b - min a b ≤ 1)

/-- (i) identification happens: 31 is replaced by the earlier 30 -/
example : snapAll near 1 [[30], [31], [50]] = [[30], [30], [50]] := by decide

/-- two operations are processed independently -/
example : snapAll near 2 [[30, 7], [31, 9], [50, 8]] = [[30, 7], [30, 9], [50, 7]] := by decide

/-- (ii) first come, first served on a non-transitive chain: 31 joins 30, but 32 (close to 31, not
to 30) stays apart -- although the raw values 31 and 32 are close, their representatives differ.
This is why `snapAll_iff_close` needs `close` to be an equivalence on the occurring values. -/
example : snapAll near 1 [[30], [31], [32]] = [[30], [30], [32]] := by decide

/-- on the data of (i) `near` is an equivalence on the occurring values: the hypothesis of
`snapAll_iff_close` / `snapAll_rows_iff` is satisfiable in a non-trivial instance -/
example : IsEquivOn near (col [[30], [31], [50]] 0) := by
  have hcol : col [[30], [31], [50]] 0 = [30, 31, 50] := by decide
  rw [hcol]
  refine ⟨?_, ?_, ?_⟩
  · decide
  · decide
  · decide

/-- `near` is reflexive: the hypothesis of `snapAll_close` and `snapAll_stable` -/
example : ∀ v, near v v = true := by
  intro v; simp [near]

/-- `snapAll_stable` fails without reflexivity: with `close a b := a < b` the two occurrences of
the raw value 1 get different representatives -/
example : snapAll (fun a b : Nat => decide (a < b)) 1 [[1], [2], [1]] = [[1], [2], [2]] := by
  decide

end Pomerol.Spec.Snap
