/-
  Wick factorisation of the two-particle Green's function of a quadratic Hamiltonian
  (property C12, second half), entirely at the level of the Lehmann representation, by the equation of
  motion in frequency space.

  Multiplying the multi-term of a world line by `a₁ = z₁ − (E₂ − E₁)` removes the first denominator;
  what is left is the same three-level kernel `wk1` twice, so that in each piece one intermediate sum can
  be carried out and gives a matrix product (`D·A` or `A·B`; `eom_ordering`).  With the six orderings
  rotated so that `c_i` stands first, the pieces with `D·A` and `A·D` have the same kernel, so that only
  anticommutators `{c_i, ·}` survive (`chiFirst_eom`).  With the CAR this gives
      Σ_{i'} (z₀ δ_{ii'} − h_{ii'}) χ_{i'jkl}(z₀,z₁,z₂)
          = β ( [z₁+z₂=0] δ_il G_jk(z₁) − [z₀+z₂=0] δ_ik G_jl(z₁) ),
  which is multiplied by `G(z₀) = (z₀ − h)⁻¹`.
-/
import PomerolModel.Spec.Wick
import PomerolModel.Spec.Chi4Exchange

namespace Pomerol.Spec
open Matrix Complex

/-- what is left of the multi-term of a world line when its first denominator is removed: a kernel
of three consecutive levels -/
noncomputable def wk1 (β a2 a3 w2 w3 w4 : ℂ) : ℂ :=
  (-(w2 + w3)) / (a2 * a3)
  + (if a2 + a3 = 0 then -(β * w2) else (w2 - w4) / (a2 + a3)) / a3

/-- `a₁ · multi-term`, all four resonance classes at once: no `1/a₁` is left, and the result is the
same kernel twice, on the levels 2,3,4 and (one step further round the closed world line,
`a₄ = −(a₁+a₂+a₃)`) on the levels 3,4,1.  On the resonance `a₁+a₂ = 0` this needs `w₃ = w₁`. -/
theorem a1_mul_mtCore (β a1 a2 a3 w1 w2 w3 w4 : ℂ) (h1 : a1 ≠ 0) (h3 : a3 ≠ 0)
    (hs : a1 + a2 + a3 ≠ 0) (hw13 : a1 + a2 = 0 → w3 = w1) :
    a1 * mtCore β a1 a2 a3 w1 w2 w3 w4
      = wk1 β a2 a3 w2 w3 w4 + wk1 β a3 (-(a1 + a2 + a3)) w3 w4 w1 := by
  have key : ∀ X Y : ℂ, a1 * (X / (a1 * Y)) = X / Y := fun X Y => by
    rw [← mul_div_assoc, mul_div_mul_left _ _ h1]
  have e : a3 + -(a1 + a2 + a3) = -(a1 + a2) := by ring
  have hB : (a1 + a2) * (if a1 + a2 = 0 then β * w1 else (w3 - w1) / (a1 + a2)) = w3 - w1 :=
    mul_bracket fun hc => by rw [hw13 hc, sub_self]
  unfold mtCore wk1
  rw [e, neg_bracket (x := β * w1) fun hc => by rw [hw13 hc], mul_add, mul_add,
    mul_add, mul_assoc a1 a2 a3, mul_assoc a1 (a1 + a2 + a3) a3, key, key, key, key]
  generalize (if a1 + a2 = 0 then β * w1 else (w3 - w1) / (a1 + a2)) = B12 at hB ⊢
  generalize (if a2 + a3 = 0 then -(β * w2) else (w2 - w4) / (a2 + a3)) = B23
  field_simp
  linear_combination hB

variable {ι : Type} [Fintype ι] [DecidableEq ι]

set_option linter.unusedSectionVars false

/-- three-operator world-line sum with the kernel `wk1` -/
noncomputable def EigenData.K3 (d : EigenData ι) (M B Cc : Matrix ι ι ℂ) (zb zc : ℂ) : ℂ :=
  ∑ n2, ∑ n3, ∑ n4, M n4 n2 * B n2 n3 * Cc n3 n4 *
    wk1 d.β (zb - ((d.E n3 - d.E n2 : ℝ) : ℂ)) (zc - ((d.E n4 - d.E n3 : ℝ) : ℂ))
      (d.w n2) (d.w n3) (d.w n4)

theorem worldLine_eom (d : EigenData ι) (za zb zc zd : ℂ) (hz : za + zb + zc + zd = 0)
    (ha : Complex.exp ((d.β:ℂ) * za) = -1) (hb : Complex.exp ((d.β:ℂ) * zb) = -1)
    (hc : Complex.exp ((d.β:ℂ) * zc) = -1) (n1 n2 n3 n4 : ι) :
    (za - ((d.E n2 - d.E n1 : ℝ) : ℂ)) *
      multiTerm d.β za zb zc (d.E n2 - d.E n1) (d.E n3 - d.E n2) (d.E n4 - d.E n3)
        (d.w n1) (d.w n2) (d.w n3) (d.w n4)
      = wk1 d.β (zb - ((d.E n3 - d.E n2 : ℝ) : ℂ)) (zc - ((d.E n4 - d.E n3 : ℝ) : ℂ))
          (d.w n2) (d.w n3) (d.w n4)
        + wk1 d.β (zc - ((d.E n4 - d.E n3 : ℝ) : ℂ)) (zd - ((d.E n1 - d.E n4 : ℝ) : ℂ))
          (d.w n3) (d.w n4) (d.w n1) := by
  have e4 : zd - ((d.E n1 - d.E n4 : ℝ) : ℂ) = -((za - ((d.E n2 - d.E n1 : ℝ) : ℂ))
      + (zb - ((d.E n3 - d.E n2 : ℝ) : ℂ)) + (zc - ((d.E n4 - d.E n3 : ℝ) : ℂ))) := by
    push_cast
    linear_combination hz
  rw [multiTerm_eq_mtCore, e4]
  exact a1_mul_mtCore d.β _ _ _ _ _ _ _
    (sub_ofReal_ne_zero_of_exp_eq_neg_one ha (d.E n2 - d.E n1))
    (sub_ofReal_ne_zero_of_exp_eq_neg_one hc (d.E n4 - d.E n3))
    (sum3_sub_ne_zero ha hb hc _ _ _)
    (w_eq_of_resonant (mul_exp_step ha (w_ratio' d n1 n2)) (mul_exp_step hb (w_ratio' d n2 n3)))

/-- summing the level between two neighbours on a closed world line gives their matrix product -/
theorem sum4_contract (D A : Matrix ι ι ℂ) (g : ι → ι → ι → ℂ) :
    ∑ n1, ∑ n2, ∑ n3, ∑ n4, D n4 n1 * A n1 n2 * g n2 n3 n4
      = ∑ n2, ∑ n3, ∑ n4, (D * A) n4 n2 * g n2 n3 n4 := by
  rw [sum4_rotate fun n1 n2 n3 n4 => D n4 n1 * A n1 n2 * g n2 n3 n4]
  refine Finset.sum_congr rfl fun n2 _ => Finset.sum_congr rfl fun n3 _ =>
    Finset.sum_congr rfl fun n4 _ => ?_
  rw [← Finset.sum_mul, Matrix.mul_apply]

/-- equation of motion of one ordering: replacing the first operator `A` by `z_a A − [A,H]` contracts
`A` with its two neighbours on the closed world line (`D·A` and `A·B`), both contractions with the
kernel `wk1`; `z_a+z_b+z_c+z_d = 0`, `z_d` being the frequency of the operator at time 0 -/
theorem eom_ordering (d : EigenData ι) (A B Cc D : Matrix ι ι ℂ) (za zb zc zd : ℂ)
    (hz : za + zb + zc + zd = 0)
    (ha : Complex.exp ((d.β:ℂ) * za) = -1) (hb : Complex.exp ((d.β:ℂ) * zb) = -1)
    (hc : Complex.exp ((d.β:ℂ) * zc) = -1) :
    d.orderedLehmann (d.eomOp za A) B Cc D za zb zc
      = d.K3 (D * A) B Cc zb zc + d.K3 (A * B) Cc D zc zd := by
  have hterm : ∀ n1 n2 n3 n4 : ι,
      d.eomOp za A n1 n2 * B n2 n3 * Cc n3 n4 * D n4 n1 *
        multiTerm d.β za zb zc (d.E n2 - d.E n1) (d.E n3 - d.E n2) (d.E n4 - d.E n3)
          (d.w n1) (d.w n2) (d.w n3) (d.w n4)
      = D n4 n1 * A n1 n2 * (B n2 n3 * Cc n3 n4 *
          wk1 d.β (zb - ((d.E n3 - d.E n2 : ℝ) : ℂ)) (zc - ((d.E n4 - d.E n3 : ℝ) : ℂ))
            (d.w n2) (d.w n3) (d.w n4))
        + A n1 n2 * B n2 n3 * (Cc n3 n4 * D n4 n1 *
          wk1 d.β (zc - ((d.E n4 - d.E n3 : ℝ) : ℂ)) (zd - ((d.E n1 - d.E n4 : ℝ) : ℂ))
            (d.w n3) (d.w n4) (d.w n1)) := fun n1 n2 n3 n4 => by
    unfold EigenData.eomOp
    rw [Matrix.of_apply]
    linear_combination (A n1 n2 * B n2 n3 * Cc n3 n4 * D n4 n1) *
      worldLine_eom d za zb zc zd hz ha hb hc n1 n2 n3 n4
  unfold EigenData.orderedLehmann EigenData.K3
  rw [sum4_congr hterm, sum4_add_distrib]
  refine congrArg₂ (· + ·) ?_ ?_
  · -- the level n1 is summed: (D·A)_{n4 n2}
    rw [sum4_contract]
    simp only [mul_assoc]
  · -- the level n2 is summed: (A·B)_{n1 n3}; the closed world line is read from n2 on
    rw [sum4_rotate fun n1 n2 n3 n4 => A n1 n2 * B n2 n3 * (Cc n3 n4 * D n4 n1 *
        wk1 d.β (zc - ((d.E n4 - d.E n3 : ℝ) : ℂ)) (zd - ((d.E n1 - d.E n4 : ℝ) : ℂ))
          (d.w n3) (d.w n4) (d.w n1)),
      sum4_contract A B fun n3 n4 n1 => Cc n3 n4 * D n4 n1 *
        wk1 d.β (zc - ((d.E n4 - d.E n3 : ℝ) : ℂ)) (zd - ((d.E n1 - d.E n4 : ℝ) : ℂ))
          (d.w n3) (d.w n4) (d.w n1)]
    simp only [mul_assoc]

theorem orderedLehmann_sum_first {κ : Type} [Fintype κ] (d : EigenData ι) (g : κ → ℂ)
    (F : κ → Matrix ι ι ℂ) (B Cc D : Matrix ι ι ℂ) (za zb zc : ℂ) :
    ∑ p, g p * d.orderedLehmann (F p) B Cc D za zb zc
      = d.orderedLehmann (∑ p, g p • F p) B Cc D za zb zc := by
  unfold EigenData.orderedLehmann
  -- over world lines `q = (n1, n2, n3, n4)` both sides are `Σ_q Σ_p`
  simp only [sum4_eq_sum_prod, Finset.mul_sum]
  rw [Finset.sum_comm]
  refine Finset.sum_congr rfl fun q _ => ?_
  rw [Matrix.sum_apply, Finset.sum_mul, Finset.sum_mul, Finset.sum_mul, Finset.sum_mul]
  refine Finset.sum_congr rfl fun p _ => ?_
  rw [Matrix.smul_apply, smul_eq_mul]
  ring

theorem chiFirst_sum_first {κ : Type} [Fintype κ] (d : EigenData ι) (g : κ → ℂ)
    (F : κ → Matrix ι ι ℂ) (B1 B2 X : Matrix ι ι ℂ) (z0 z1 z2 y : ℂ) :
    ∑ p, g p * d.chiFirst (F p) B1 B2 X z0 z1 z2 y
      = d.chiFirst (∑ p, g p • F p) B1 B2 X z0 z1 z2 y := by
  unfold EigenData.chiFirst
  simp only [mul_add, mul_sub, Finset.sum_add_distrib, Finset.sum_sub_distrib,
    orderedLehmann_sum_first]

theorem K3_add (d : EigenData ι) (M1 M2 B Cc : Matrix ι ι ℂ) (zb zc : ℂ) :
    d.K3 (M1 + M2) B Cc zb zc = d.K3 M1 B Cc zb zc + d.K3 M2 B Cc zb zc := by
  unfold EigenData.K3
  simp only [Matrix.add_apply, add_mul, Finset.sum_add_distrib]

theorem K3_zero (d : EigenData ι) (B Cc : Matrix ι ι ℂ) (zb zc : ℂ) :
    d.K3 0 B Cc zb zc = 0 := by
  unfold EigenData.K3
  simp only [Matrix.zero_apply, zero_mul, Finset.sum_const_zero]

/-- generic equation of motion (no CAR used yet): applying `z₀ − [·,H]` to the first operator of χ
leaves only the anticommutators of that operator with the three others. -/
theorem chiFirst_eom (d : EigenData ι) (A B1 B2 X : Matrix ι ι ℂ) (z0 z1 z2 y : ℂ)
    (hs : z0 + z1 + z2 + y = 0)
    (h0 : Complex.exp ((d.β:ℂ) * z0) = -1) (h1 : Complex.exp ((d.β:ℂ) * z1) = -1)
    (h2 : Complex.exp ((d.β:ℂ) * z2) = -1) (hy : Complex.exp ((d.β:ℂ) * y) = -1) :
    d.chiFirst (d.eomOp z0 A) B1 B2 X z0 z1 z2 y
      = d.K3 (X * A + A * X) B1 B2 z1 z2 - d.K3 (X * A + A * X) B2 B1 z2 z1
        + (d.K3 (A * B1 + B1 * A) B2 X z2 y - d.K3 (A * B1 + B1 * A) X B2 y z2)
        + (d.K3 (A * B2 + B2 * A) X B1 y z1 - d.K3 (A * B2 + B2 * A) B1 X z1 y) := by
  unfold EigenData.chiFirst
  rw [eom_ordering d A B1 B2 X z0 z1 z2 y hs h0 h1 h2,
    eom_ordering d A B2 B1 X z0 z2 z1 y (by linear_combination hs) h0 h2 h1,
    eom_ordering d A B2 X B1 z0 z2 y z1 (by linear_combination hs) h0 h2 hy,
    eom_ordering d A X B1 B2 z0 y z1 z2 (by linear_combination hs) h0 hy h1,
    eom_ordering d A B1 X B2 z0 z1 y z2 (by linear_combination hs) h0 h1 hy,
    eom_ordering d A X B2 B1 z0 y z2 z1 (by linear_combination hs) h0 hy h2]
  simp only [K3_add]
  ring

theorem K3_one (d : EigenData ι) (B Cc : Matrix ι ι ℂ) (zb zc : ℂ) :
    d.K3 1 B Cc zb zc = ∑ n2, ∑ n3, B n2 n3 * Cc n3 n2 *
      wk1 d.β (zb - ((d.E n3 - d.E n2 : ℝ) : ℂ)) (zc - ((d.E n2 - d.E n3 : ℝ) : ℂ))
        (d.w n2) (d.w n3) (d.w n2) := by
  unfold EigenData.K3
  refine Finset.sum_congr rfl fun n2 _ => Finset.sum_congr rfl fun n3 _ => ?_
  rw [Fintype.sum_eq_single n2 fun n4 hne => by
    rw [Matrix.one_apply_ne hne, zero_mul, zero_mul, zero_mul], Matrix.one_apply_eq, one_mul]

theorem wk1_antisymm (β a2 a3 w2 w3 : ℂ) :
    wk1 β a2 a3 w2 w3 w2 - wk1 β a3 a2 w3 w2 w3
      = if a2 + a3 = 0 then β * ((w2 + w3) / a2) else 0 := by
  unfold wk1
  rw [add_comm a3 a2]
  by_cases hb : a2 + a3 = 0
  · rw [if_pos hb, if_pos hb, if_pos hb]
    obtain rfl : a3 = -a2 := by linear_combination hb
    rw [div_neg, mul_comm (-a2) a2, add_comm w3 w2]
    ring
  · rw [if_neg hb, if_neg hb, if_neg hb, sub_self, sub_self, zero_div, zero_div, zero_div,
      mul_comm a3 a2, add_comm w3 w2]
    ring

/-- the contraction `{c, c†} = 1` leaves `β δ_{z_b+z_c,0} G_{BC}(z_b)` -/
theorem K3_one_antisymm (d : EigenData ι) (B Cc : Matrix ι ι ℂ) (zb zc : ℂ) :
    d.K3 1 B Cc zb zc - d.K3 1 Cc B zc zb
      = if zb + zc = 0 then (d.β : ℂ) * d.lehmannG B Cc zb else 0 := by
  have hR : (if zb + zc = 0 then (d.β : ℂ) * d.lehmannG B Cc zb else 0)
      = ∑ n2, ∑ n3, if zb + zc = 0 then (d.β : ℂ) * d.gTerm B Cc zb n2 n3 else 0 := by
    split_ifs
    · simp only [lehmannG_eq_sum_gTerm, Finset.mul_sum]
    · simp only [Finset.sum_const_zero]
  -- in the second sum the two levels are renamed; then term by term
  rw [hR, K3_one, K3_one, Finset.sum_comm (f := fun n2 n3 => Cc n2 n3 * B n3 n2 * _),
    ← Finset.sum_sub_distrib]
  refine Finset.sum_congr rfl fun n2 _ => ?_
  rw [← Finset.sum_sub_distrib]
  refine Finset.sum_congr rfl fun n3 _ => ?_
  have key := wk1_antisymm d.β (zb - ((d.E n3 - d.E n2 : ℝ) : ℂ))
    (zc - ((d.E n2 - d.E n3 : ℝ) : ℂ)) (d.w n2) (d.w n3)
  rw [show (zb - ((d.E n3 - d.E n2 : ℝ) : ℂ)) + (zc - ((d.E n2 - d.E n3 : ℝ) : ℂ)) = zb + zc by
    push_cast; ring] at key
  unfold EigenData.gTerm
  split_ifs at key ⊢ <;> linear_combination (B n2 n3 * Cc n3 n2) * key

variable {J : Type} [Fintype J] [DecidableEq J]

/-- equation of motion of the two-particle Green's function of a quadratic Hamiltonian, in frequency
space, Lehmann level, for all frequencies with `e^{βz} = −1`:
`Σ_{i'} (z₀ − h)_{ii'} χ_{i'jkl}(z₀,z₁,z₂) = β([z₁+z₂=0] δ_il G_jk(z₁) − [z₀+z₂=0] δ_ik G_jl(z₁))`. -/
theorem chi4_equation_of_motion {d : EigenData ι} {c : J → Matrix ι ι ℂ} {h : Matrix J J ℂ}
    (q : Quadratic d c h) (i j k l : J)
    (z : Fin 3 → ℂ) (hz : ∀ m, Complex.exp ((d.β:ℂ) * z m) = -1) :
    ∑ i', (z 0 • (1 : Matrix J J ℂ) - h) i i' *
        d.chiLehmann ![c i', c j, (c k)ᴴ] (c l)ᴴ z
      = (d.β : ℂ) *
        ((if z 1 + z 2 = 0 then (if i = l then d.lehmannG (c j) (c k)ᴴ (z 1) else 0) else 0)
          - (if z 0 + z 2 = 0 then (if i = k then d.lehmannG (c j) (c l)ᴴ (z 1) else 0) else 0)) := by
  have hfirst : ∀ i', d.chiLehmann ![c i', c j, (c k)ᴴ] (c l)ᴴ z
      = d.chiFirst (c i') (c j) (c k)ᴴ (c l)ᴴ (z 0) (z 1) (z 2) (-(z 0 + z 1 + z 2)) := by
    intro i'
    rw [chiLehmann_first d _ _ z hz]
    simp only [Matrix.cons_val_zero, Matrix.cons_val_one, Matrix.cons_val_two, Matrix.head_cons,
      Matrix.tail_cons]
  have hy : Complex.exp ((d.β:ℂ) * (-(z 0 + z 1 + z 2))) = -1 :=
    exp_fourth (z1 := z 0) (z2 := z 1) (z3 := z 2) (by ring) (hz 0) (hz 1) (hz 2)
  simp only [hfirst]
  rw [chiFirst_sum_first, eomOp_eq_sum q i (z 0),
    chiFirst_eom d _ _ _ _ _ _ _ _ (by ring) (hz 0) (hz 1) (hz 2) hy]
  have hXA : (c l)ᴴ * c i + c i * (c l)ᴴ = if i = l then 1 else 0 := by
    rw [add_comm]; exact q.car.ccd i l
  rw [hXA, q.car.cc i j, q.car.ccd i k, K3_zero, K3_zero, sub_self, add_zero]
  have e13 : z 1 + -(z 0 + z 1 + z 2) = 0 ↔ z 0 + z 2 = 0 := by
    rw [show z 1 + -(z 0 + z 1 + z 2) = -(z 0 + z 2) by ring, neg_eq_zero]
  have s1 := K3_one_antisymm d (c j) (c k)ᴴ (z 1) (z 2)
  have s2 := K3_one_antisymm d (c j) (c l)ᴴ (z 1) (-(z 0 + z 1 + z 2))
  simp only [e13] at s2
  by_cases hil : i = l <;> by_cases hik : i = k
  · simp only [if_pos hil, if_pos hik]
    rw [mul_sub, mul_ite, mul_ite, mul_zero]
    linear_combination s1 - s2
  · simp only [if_pos hil, if_neg hik, K3_zero]
    rw [mul_sub, mul_ite, mul_ite, mul_zero]
    simp only [ite_self]
    linear_combination s1
  · simp only [if_neg hil, if_pos hik, K3_zero]
    rw [mul_sub, mul_ite, mul_ite, mul_zero]
    simp only [ite_self]
    linear_combination -s2
  · simp only [if_neg hil, if_neg hik, K3_zero, ite_self]
    ring

/-- Wick's theorem for the two-particle Green's function of a quadratic Hamiltonian, Lehmann level,
all frequencies with `e^{βz} = −1` (degenerate levels and coinciding frequencies included):
`χ_{ijkl}(z₀,z₁,z₂) = β([z₁+z₂=0] G_il(z₀) G_jk(z₁) − [z₀+z₂=0] G_ik(z₀) G_jl(z₁))`. -/
theorem wick_chi4_general {d : EigenData ι} {c : J → Matrix ι ι ℂ} {h : Matrix J J ℂ}
    (q : Quadratic d c h) (i j k l : J)
    (z : Fin 3 → ℂ) (hz : ∀ m, Complex.exp ((d.β:ℂ) * z m) = -1) :
    d.chiLehmann ![c i, c j, (c k)ᴴ] (c l)ᴴ z
      = (d.β : ℂ) *
        ((if z 1 + z 2 = 0 then
            d.lehmannG (c i) (c l)ᴴ (z 0) * d.lehmannG (c j) (c k)ᴴ (z 1) else 0)
          - (if z 0 + z 2 = 0 then
            d.lehmannG (c i) (c k)ᴴ (z 0) * d.lehmannG (c j) (c l)ᴴ (z 1) else 0)) := by
  rcases isEmpty_or_nonempty ι with hι | hι
  · -- no states at all: every sum is empty
    have h0 : ∀ (A B : Matrix ι ι ℂ) (x : ℂ), d.lehmannG A B x = 0 := by
      intro A B x
      unfold EigenData.lehmannG
      exact Finset.sum_eq_zero fun n _ => (hι.false n).elim
    have h1 : ∀ (A B Cc D : Matrix ι ι ℂ) (za zb zc : ℂ), d.orderedLehmann A B Cc D za zb zc = 0 := by
      intro A B Cc D za zb zc
      unfold EigenData.orderedLehmann
      exact Finset.sum_eq_zero fun n _ => (hι.false n).elim
    rw [chiLehmann_expand]
    simp only [h0, h1, mul_zero, ite_self, sub_self, add_zero]
  · set L : Matrix J J ℂ := z 0 • (1 : Matrix J J ℂ) - h
    set Gm : Matrix J J ℂ := Matrix.of fun a b => d.lehmannG (c a) (c b)ᴴ (z 0) with hGm
    have hpole : ∀ n m, z 0 ≠ ((d.E m - d.E n : ℝ) : ℂ) := fun n m =>
      sub_ne_zero.mp (sub_ofReal_ne_zero_of_exp_eq_neg_one (hz 0) _)
    have hLG : L * Gm = 1 := free_propagator d c q.car h q.ham (z 0) hpole
    have hGL : Gm * L = 1 := mul_eq_one_comm.mp hLG
    set v : J → ℂ := fun i' => d.chiLehmann ![c i', c j, (c k)ᴴ] (c l)ᴴ z
    set r : J → ℂ := fun i' => (d.β : ℂ) *
        ((if z 1 + z 2 = 0 then (if i' = l then d.lehmannG (c j) (c k)ᴴ (z 1) else 0) else 0)
          - (if z 0 + z 2 = 0 then (if i' = k then d.lehmannG (c j) (c l)ᴴ (z 1) else 0) else 0))
      with hr
    have heom : L *ᵥ v = r := by
      funext i'
      exact chi4_equation_of_motion q i' j k l z hz
    have hsol : v = Gm *ᵥ r := by
      rw [← heom, Matrix.mulVec_mulVec, hGL, Matrix.one_mulVec]
    have hvi : v i = ∑ i', Gm i i' * r i' := by
      rw [hsol]
      rfl
    change v i = _
    rw [hvi]
    simp only [hr, hGm, Matrix.of_apply]
    by_cases h12 : z 1 + z 2 = 0 <;> by_cases h02 : z 0 + z 2 = 0 <;>
      simp only [h12, h02, if_true, if_false, sub_zero, zero_sub, mul_sub, mul_ite, mul_zero,
        mul_neg, Finset.sum_sub_distrib, Finset.sum_neg_distrib, Finset.sum_ite_eq',
        Finset.mem_univ, Finset.sum_const_zero, sub_self] <;> ring

theorem I_omega_add_neg_eq_zero_iff (d : EigenData ι) (a b : ℤ) :
    I * (d.ω a : ℂ) + -(I * (d.ω b : ℂ)) = 0 ↔ a = b := by
  rw [← mul_neg, ← mul_add, mul_eq_zero, or_iff_right Complex.I_ne_zero, add_neg_eq_zero,
    Complex.ofReal_inj, omega_inj]

/-- Wick's theorem at fermionic Matsubara frequencies, for what the library evaluates:
`χ_{ijkl}(ω₁,ω₂;ω₃) = β(δ_{ω₂ω₃} G_il(ω₁) G_jk(ω₂) − δ_{ω₁ω₃} G_ik(ω₁) G_jl(ω₂))`. -/
theorem wick_chi4 {d : EigenData ι} {c : J → Matrix ι ι ℂ} {h : Matrix J J ℂ}
    (q : Quadratic d c h) (i j k l : J)
    (k1 k2 k3 : ℤ) :
    d.chiLehmann ![c i, c j, (c k)ᴴ] (c l)ᴴ
        ![I * (d.ω k1 : ℂ), I * (d.ω k2 : ℂ), -(I * (d.ω k3 : ℂ))]
      = (d.β : ℂ) *
        ((if k2 = k3 then d.lehmannG (c i) (c l)ᴴ (I * (d.ω k1 : ℂ))
              * d.lehmannG (c j) (c k)ᴴ (I * (d.ω k2 : ℂ)) else 0)
          - (if k1 = k3 then d.lehmannG (c i) (c k)ᴴ (I * (d.ω k1 : ℂ))
              * d.lehmannG (c j) (c l)ᴴ (I * (d.ω k2 : ℂ)) else 0)) := by
  rw [wick_chi4_general q i j k l _ (matsubara_exp d k1 k2 k3)]
  simp only [Matrix.cons_val_zero, Matrix.cons_val_one, Matrix.cons_val_two, Matrix.head_cons,
    Matrix.tail_cons, I_omega_add_neg_eq_zero_iff]

/-- Wick's theorem, definition level: the signed sum of the six time-ordered simplex integrals of
`⟨T c_i(τ₁) c_j(τ₂) c†_k(τ₃) c†_l(0)⟩` equals the antisymmetrised product of the single-particle
Green's functions `G(iω) = −∫₀^β ⟨c(τ) c†(0)⟩ e^{iωτ} dτ`. -/
theorem wick_chiDef {d : EigenData ι} {c : J → Matrix ι ι ℂ} {h : Matrix J J ℂ}
    (q : Quadratic d c h) (i j k l : J)
    (k1 k2 k3 : ℤ) :
    d.chiDef ![c i, c j, (c k)ᴴ] (c l)ᴴ
        ![I * (d.ω k1 : ℂ), I * (d.ω k2 : ℂ), -(I * (d.ω k3 : ℂ))]
      = (d.β : ℂ) *
        ((if k2 = k3 then d.Gdef (c i) (c l)ᴴ k1 * d.Gdef (c j) (c k)ᴴ k2 else 0)
          - (if k1 = k3 then d.Gdef (c i) (c k)ᴴ k1 * d.Gdef (c j) (c l)ᴴ k2 else 0)) := by
  rw [chi_lehmann_matsubara, wick_chi4 q]
  simp only [lehmann_single]

end Pomerol.Spec
