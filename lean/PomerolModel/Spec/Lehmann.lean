/-
  Spectral (Lehmann) representation of the fermionic single-particle Matsubara Green's function.

  Everything is written in the eigenbasis, where `H` and `ρ` are diagonal: the correlator is a finite sum
  of exponentials, and its transform at any complex frequency `z` is one elementary integral per pair of
  levels (`corr_transform`, `integral_exp_pole`).  `e^{zβ} = ∓1` then gives the fermionic Lehmann sum
  (`lehmann_single`, C01) and the bosonic one (`lehmann_susc`, `Spec/Susc.lean`), with no hypothesis on
  the spectrum.  `corr_conj` carries the correlator to any other basis.  `NormedSpace.exp` is the genuine
  matrix exponential on `Matrix ι ι ℂ`.
-/
import PomerolModel.Spec.Rotation
import Mathlib.Analysis.SpecialFunctions.Integrals.Basic
import Mathlib.Analysis.Normed.Algebra.MatrixExponential
import Mathlib.Analysis.SpecialFunctions.Exponential
import Mathlib.LinearAlgebra.Matrix.Trace
import Mathlib.Analysis.SpecialFunctions.Exp
import Mathlib.Tactic.Ring
import Mathlib.Tactic.FieldSimp
import Mathlib.Tactic.Linarith

namespace Pomerol.Spec
open Matrix Complex

/-- eigen-data of a finite Hamiltonian: inverse temperature and the eigenvalues -/
structure EigenData (ι : Type) where
  β : ℝ
  hβ : 0 < β
  E : ι → ℝ

variable {ι : Type} [Fintype ι] [DecidableEq ι]

set_option linter.unusedSectionVars false

noncomputable def EigenData.Z (d : EigenData ι) : ℝ := ∑ n, Real.exp (-d.β * d.E n)
noncomputable def EigenData.w (d : EigenData ι) (n : ι) : ℝ := Real.exp (-d.β * d.E n) / d.Z
/-- fermionic Matsubara frequency -/
noncomputable def EigenData.ω (d : EigenData ι) (k : ℤ) : ℝ := (2 * (k : ℝ) + 1) * Real.pi / d.β
/-- bosonic Matsubara frequency -/
noncomputable def EigenData.Ω (d : EigenData ι) (k : ℤ) : ℝ := (2 * (k : ℝ)) * Real.pi / d.β
noncomputable def EigenData.H (d : EigenData ι) : Matrix ι ι ℂ := diagonal fun n => (d.E n : ℂ)
noncomputable def EigenData.ρ (d : EigenData ι) : Matrix ι ι ℂ := diagonal fun n => (d.w n : ℂ)

/-- ⟨A(τ) B(0)⟩ = Tr(ρ e^{τH} A e^{−τH} B) in the eigenbasis (matrix exponentials!) -/
noncomputable def EigenData.corr (d : EigenData ι) (A B : Matrix ι ι ℂ) (τ : ℝ) : ℂ :=
  (d.ρ * NormedSpace.exp ((τ : ℂ) • d.H) * A * NormedSpace.exp ((-(τ : ℂ)) • d.H) * B).trace

/-- G(iω_k) := −∫₀^β ⟨T c(τ) c†(0)⟩ e^{iω_k τ} dτ -/
noncomputable def EigenData.Gdef (d : EigenData ι) (C CX : Matrix ι ι ℂ) (k : ℤ) : ℂ :=
  -∫ τ in (0:ℝ)..d.β, d.corr C CX τ * Complex.exp (I * (d.ω k : ℂ) * (τ : ℂ))

/-- the Lehmann sum as the library evaluates it -/
noncomputable def EigenData.lehmannG (d : EigenData ι) (C CX : Matrix ι ι ℂ) (z : ℂ) : ℂ :=
  ∑ n, ∑ m, C n m * CX m n * ((d.w n : ℂ) + (d.w m : ℂ)) / (z - ((d.E m - d.E n : ℝ) : ℂ))

noncomputable def EigenData.gTerm (d : EigenData ι) (C CX : Matrix ι ι ℂ) (z : ℂ) (n m : ι) : ℂ :=
  C n m * CX m n * ((d.w n : ℂ) + (d.w m : ℂ)) / (z - ((d.E m - d.E n : ℝ) : ℂ))

theorem lehmannG_eq_sum_gTerm (d : EigenData ι) (C CX : Matrix ι ι ℂ) (z : ℂ) :
    d.lehmannG C CX z = ∑ n, ∑ m, d.gTerm C CX z n m := rfl

theorem exp_smul_H (d : EigenData ι) (t : ℂ) :
    NormedSpace.exp (t • d.H) = diagonal fun n => Complex.exp (t * (d.E n : ℂ)) := by
  unfold EigenData.H
  rw [← diagonal_smul, Matrix.exp_diagonal, Pi.exp_def]
  refine congrArg diagonal (funext fun n => ?_)
  rw [Complex.exp_eq_exp_ℂ]
  rfl

theorem corr_eq_sum (d : EigenData ι) (A B : Matrix ι ι ℂ) (τ : ℝ) :
    d.corr A B τ = ∑ n, ∑ m, ((d.w n : ℂ) * A n m * B m n)
      * Complex.exp (-(τ : ℂ) * ((d.E m - d.E n : ℝ) : ℂ)) := by
  unfold EigenData.corr
  rw [exp_smul_H, exp_smul_H]
  unfold EigenData.ρ
  rw [diagonal_mul_diagonal, Matrix.trace]
  simp only [diag_apply, Matrix.mul_apply (N := B), mul_diagonal, diagonal_mul]
  refine Finset.sum_congr rfl fun n _ => Finset.sum_congr rfl fun m _ => ?_
  have : Complex.exp (-(τ : ℂ) * ((d.E m - d.E n : ℝ) : ℂ))
      = Complex.exp ((τ : ℂ) * (d.E n : ℂ)) * Complex.exp (-(τ : ℂ) * (d.E m : ℂ)) := by
    rw [← Complex.exp_add]; congr 1; push_cast; ring
  rw [this]; ring

theorem Z_pos [Nonempty ι] (d : EigenData ι) : 0 < d.Z :=
  Finset.sum_pos (fun _ _ => Real.exp_pos _) Finset.univ_nonempty

theorem w_pos [Nonempty ι] (d : EigenData ι) (n : ι) : 0 < d.w n :=
  div_pos (Real.exp_pos _) (Z_pos d)

/-- holds without `Nonempty` (`0/0 = 0`) -/
theorem w_nonneg (d : EigenData ι) (n : ι) : 0 ≤ d.w n :=
  div_nonneg (Real.exp_pos _).le (Finset.sum_nonneg fun _ _ => (Real.exp_pos _).le)

theorem w_sum [Nonempty ι] (d : EigenData ι) : ∑ n, d.w n = 1 := by
  unfold EigenData.w
  rw [← Finset.sum_div]
  exact div_self (Z_pos d).ne'

/-- holds without `Nonempty` (both sides are `_/0 = 0` then) -/
theorem w_ratio' (d : EigenData ι) (n m : ι) :
    d.w m = d.w n * Real.exp (-d.β * (d.E m - d.E n)) := by
  unfold EigenData.w
  rw [div_mul_eq_mul_div, ← Real.exp_add]
  congr 2; ring

theorem w_ratio_cast (d : EigenData ι) (n m : ι) :
    (d.w m : ℂ) = (d.w n : ℂ) * Complex.exp (-(d.β:ℂ) * ((d.E m - d.E n : ℝ) : ℂ)) := by
  rw [w_ratio' d n m]; push_cast; rfl

theorem exp_I_omega_beta (d : EigenData ι) (k : ℤ) :
    Complex.exp (I * (d.ω k : ℂ) * (d.β : ℂ)) = -1 := by
  have : I * (d.ω k : ℂ) * (d.β : ℂ) = (Real.pi : ℂ) * I + (k : ℂ) * (2 * (Real.pi : ℂ) * I) := by
    rw [mul_assoc, ← Complex.ofReal_mul, EigenData.ω, div_mul_cancel₀ _ d.hβ.ne']
    push_cast
    ring
  rw [this, Complex.exp_add, Complex.exp_pi_mul_I, Complex.exp_int_mul_two_pi_mul_I]
  ring

theorem omega_ne_zero (d : EigenData ι) (k : ℤ) : d.ω k ≠ 0 := fun h => by
  have := exp_I_omega_beta d k
  rw [h] at this
  norm_num at this

/-- the same with the factors in the order of the two-particle statements -/
theorem exp_beta_I_omega (d : EigenData ι) (k : ℤ) :
    Complex.exp ((d.β : ℂ) * (I * (d.ω k : ℂ))) = -1 := by
  rw [mul_comm]
  exact exp_I_omega_beta d k

theorem omega_inj (d : EigenData ι) (a b : ℤ) : d.ω a = d.ω b ↔ a = b := by
  unfold EigenData.ω
  rw [div_left_inj' d.hβ.ne', mul_left_inj' Real.pi_ne_zero, add_left_inj,
    mul_right_inj' two_ne_zero, Int.cast_inj]

theorem omega_add_sub (d : EigenData ι) (k1 k2 k3 : ℤ) :
    d.ω k1 + d.ω k2 + -d.ω k3 = d.ω (k1 + k2 - k3) := by
  unfold EigenData.ω; push_cast; ring

theorem norm_ofReal_sub (x y : ℝ) : ‖(x : ℂ) - (y : ℂ)‖ = |x - y| := by
  rw [← Complex.ofReal_sub, Complex.norm_real, Real.norm_eq_abs]

theorem norm_ofReal_add_le {a b eps : ℝ} (ha : 0 ≤ a) (hb : 0 ≤ b) (hae : a ≤ eps)
    (hbe : b ≤ eps) : ‖(a : ℂ) + (b : ℂ)‖ ≤ 2 * eps := by
  rw [← Complex.ofReal_add, Complex.norm_real, Real.norm_eq_abs, abs_of_nonneg (add_nonneg ha hb)]
  linarith

theorem norm_ofReal_sub_le {a b eps : ℝ} (ha : 0 ≤ a) (hb : 0 ≤ b) (hae : a ≤ eps)
    (hbe : b ≤ eps) : ‖(a : ℂ) - (b : ℂ)‖ ≤ eps := by
  rw [norm_ofReal_sub]
  exact abs_sub_le_of_nonneg_of_le ha hae hb hbe

theorem abs_le_norm_I_mul_sub (y P : ℝ) : |y| ≤ ‖I * (y : ℂ) - (P : ℂ)‖ := by
  have h := Complex.abs_im_le_norm (I * (y : ℂ) - (P : ℂ))
  simpa using h

theorem one_add_exp_beta_ne_zero (β P : ℝ) : (1 : ℂ) + Complex.exp (-(β:ℂ) * (P:ℂ)) ≠ 0 := by
  have : (0:ℝ) < 1 + Real.exp (-β * P) := by positivity
  exact_mod_cast this.ne'

theorem I_omega_sub_ne_zero (d : EigenData ι) (k : ℤ) (P : ℝ) :
    I * (d.ω k : ℂ) - (P : ℂ) ≠ 0 := by
  intro h
  have := congrArg Complex.im h
  simp at this
  exact omega_ne_zero d k this

/-- the one integral behind both Lehmann theorems: `e^{zβ}` is `−1` at a fermionic and `+1` at a
bosonic Matsubara frequency -/
theorem integral_exp_pole (β : ℝ) (z : ℂ) (P : ℝ) (hc : z - (P:ℂ) ≠ 0) :
    ∫ τ in (0:ℝ)..β, Complex.exp (-(τ:ℂ) * (P:ℂ)) * Complex.exp (z * (τ:ℂ))
      = (Complex.exp (z * (β:ℂ)) * Complex.exp (-(β:ℂ) * (P:ℂ)) - 1) / (z - (P:ℂ)) := by
  have h1 : ∀ τ : ℝ, Complex.exp (-(τ:ℂ) * (P:ℂ)) * Complex.exp (z * (τ:ℂ))
      = Complex.exp ((z - (P:ℂ)) * (τ:ℂ)) := fun τ => by
    rw [← Complex.exp_add]; congr 1; ring
  simp_rw [h1]
  rw [integral_exp_mul_complex hc, ← Complex.exp_add]
  simp only [Complex.ofReal_zero, mul_zero, Complex.exp_zero]
  congr 3; ring

theorem integral_sum_const_mul {κ : Type} (s : Finset κ) (c : κ → ℂ) (f : κ → ℝ → ℂ)
    (hf : ∀ p, Continuous (f p)) (a b : ℝ) :
    ∫ τ in a..b, ∑ p ∈ s, c p * f p τ = ∑ p ∈ s, c p * ∫ τ in a..b, f p τ := by
  rw [intervalIntegral.integral_finsetSum fun p _ => ((hf p).const_mul (c p)).intervalIntegrable a b]
  exact Finset.sum_congr rfl fun p _ => intervalIntegral.integral_const_mul _ _

theorem corr_transform (d : EigenData ι) (A B : Matrix ι ι ℂ) (z : ℂ) :
    ∫ τ in (0:ℝ)..d.β, d.corr A B τ * Complex.exp (z * (τ : ℂ))
      = ∑ n, ∑ m, ((d.w n : ℂ) * A n m * B m n) *
          ∫ τ in (0:ℝ)..d.β, Complex.exp (-(τ:ℂ) * ((d.E m - d.E n : ℝ) : ℂ))
            * Complex.exp (z * (τ:ℂ)) := by
  -- the integrand is a linear combination over the pairs `p = (n, m)`
  have hI : ∀ τ : ℝ, d.corr A B τ * Complex.exp (z * (τ : ℂ))
      = ∑ p : ι × ι, ((d.w p.1 : ℂ) * A p.1 p.2 * B p.2 p.1) *
          (Complex.exp (-(τ:ℂ) * ((d.E p.2 - d.E p.1 : ℝ) : ℂ)) * Complex.exp (z * (τ:ℂ))) :=
    fun τ => by simp only [corr_eq_sum, Fintype.sum_prod_type, Finset.sum_mul, mul_assoc]
  simp_rw [hI]
  rw [integral_sum_const_mul _ _ _ (fun p => by fun_prop), Fintype.sum_prod_type]

/-- C01: the definition equals the Lehmann sum at every fermionic Matsubara
frequency, for every spectrum (degenerate or not), every β > 0, every pair of matrices. -/
theorem lehmann_single (d : EigenData ι) (C CX : Matrix ι ι ℂ) (k : ℤ) :
    d.Gdef C CX k = d.lehmannG C CX (I * (d.ω k : ℂ)) := by
  unfold EigenData.Gdef EigenData.lehmannG
  rw [corr_transform, ← Finset.sum_neg_distrib]
  refine Finset.sum_congr rfl fun n _ => ?_
  rw [← Finset.sum_neg_distrib]
  refine Finset.sum_congr rfl fun m _ => ?_
  have hc := I_omega_sub_ne_zero d k (d.E m - d.E n)
  rw [integral_exp_pole _ _ _ hc, exp_I_omega_beta, w_ratio_cast d n m]
  ring

/-- the library's imaginary-time formula for one Lehmann term, residue R, pole P
(both overflow-safe branches are this function) -/
noncomputable def tauTerm (β : ℝ) (R : ℂ) (P : ℝ) (τ : ℝ) : ℂ :=
  -R * Complex.exp (-(τ:ℂ) * (P:ℂ)) / (1 + Complex.exp (-(β:ℂ) * (P:ℂ)))

/-- transform of one imaginary-time term `c e^{−τP}/D`; `tauTerm_forward` and `suscTauTerm_forward`
(`Spec/Susc.lean`) are the cases `e^{zβ} = ∓1` -/
theorem expTerm_forward (β : ℝ) (c D z : ℂ) (P : ℝ) (hc : z - (P:ℂ) ≠ 0) :
    ∫ τ in (0:ℝ)..β, c * Complex.exp (-(τ:ℂ) * (P:ℂ)) / D * Complex.exp (z * (τ:ℂ))
      = c / D * ((Complex.exp (z * (β:ℂ)) * Complex.exp (-(β:ℂ) * (P:ℂ)) - 1) / (z - (P:ℂ))) := by
  simp_rw [mul_div_right_comm, mul_assoc]
  rw [intervalIntegral.integral_const_mul, integral_exp_pole _ _ _ hc]

/-- the two overflow-safe forms of an imaginary-time term agree, for both statistics (`σ = ∓1`):
numerator and denominator are multiplied by `e^{βP}`, so no denominator has to be non-zero -/
theorem expTerm_branch (β : ℝ) (R σ : ℂ) (P τ : ℝ) :
    R * Complex.exp (-(τ:ℂ) * (P:ℂ)) / (1 - σ * Complex.exp (-(β:ℂ) * (P:ℂ)))
      = R * Complex.exp (((β:ℂ) - (τ:ℂ)) * (P:ℂ)) / (Complex.exp ((β:ℂ) * (P:ℂ)) - σ) := by
  have h1 : Complex.exp (((β:ℂ) - (τ:ℂ)) * (P:ℂ))
      = Complex.exp ((β:ℂ) * (P:ℂ)) * Complex.exp (-(τ:ℂ) * (P:ℂ)) := by
    rw [← Complex.exp_add]; congr 1; ring
  have h2 : Complex.exp ((β:ℂ) * (P:ℂ)) - σ
      = Complex.exp ((β:ℂ) * (P:ℂ)) * (1 - σ * Complex.exp (-(β:ℂ) * (P:ℂ))) := by
    rw [mul_sub, mul_left_comm, ← Complex.exp_add]; simp
  rw [h1, h2, mul_left_comm, mul_div_mul_left _ _ (Complex.exp_ne_zero _)]

theorem tauTerm_forward (d : EigenData ι) (R : ℂ) (P : ℝ) (k : ℤ) :
    ∫ τ in (0:ℝ)..d.β, tauTerm d.β R P τ * Complex.exp (I * (d.ω k : ℂ) * (τ:ℂ))
      = R / (I * (d.ω k : ℂ) - (P:ℂ)) := by
  have hc := I_omega_sub_ne_zero d k P
  have hne := one_add_exp_beta_ne_zero d.β P
  rw [neg_mul] at hne -- the form in which `field_simp` meets this denominator
  unfold tauTerm
  rw [expTerm_forward _ _ _ _ _ hc, exp_I_omega_beta]
  field_simp
  ring

theorem tauTerm_branch (β : ℝ) (R : ℂ) (P : ℝ) (τ : ℝ) :
    tauTerm β R P τ
      = -R * Complex.exp (((β:ℂ) - (τ:ℂ)) * (P:ℂ)) / (Complex.exp ((β:ℂ) * (P:ℂ)) + 1) := by
  simpa only [tauTerm, neg_one_mul, sub_neg_eq_add] using expTerm_branch β (-R) (-1) P τ

theorem conj_mul_conj (V : Matrix ι ι ℂ) (hV : IsUnit V) (X Y : Matrix ι ι ℂ) :
    (V * X * V⁻¹) * (V * Y * V⁻¹) = V * (X * Y) * V⁻¹ :=
  rotated_mul (Matrix.nonsing_inv_mul V ((Matrix.isUnit_iff_isUnit_det V).mp hV)) X Y

theorem exp_smul_conj (d : EigenData ι) (V : Matrix ι ι ℂ) (hV : IsUnit V) (t : ℂ) :
    NormedSpace.exp (t • (V * d.H * V⁻¹)) = V * NormedSpace.exp (t • d.H) * V⁻¹ := by
  rw [← Matrix.exp_conj _ _ hV, Matrix.mul_smul, Matrix.smul_mul]

theorem corr_conj (d : EigenData ι) (V : Matrix ι ι ℂ) (hV : IsUnit V) (A B : Matrix ι ι ℂ) (τ : ℝ) :
    ((V * d.ρ * V⁻¹) * NormedSpace.exp ((τ : ℂ) • (V * d.H * V⁻¹)) * (V * A * V⁻¹)
        * NormedSpace.exp ((-(τ : ℂ)) • (V * d.H * V⁻¹)) * (V * B * V⁻¹)).trace = d.corr A B τ := by
  unfold EigenData.corr
  rw [exp_smul_conj d V hV, exp_smul_conj d V hV, conj_mul_conj V hV, conj_mul_conj V hV,
    conj_mul_conj V hV, conj_mul_conj V hV, Matrix.trace_conj hV]

end Pomerol.Spec

