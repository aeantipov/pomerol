/-
  The sparse world-line enumeration of `TwoParticleGFPart::compute` (`Model/Chi4Part.lean`) refines the
  sum over ALL quadruples of eigenstates of the Lehmann representation (`Spec/Chi4.lean`).

  Index conventions (those of the C++):  a world line is `(index1, index2, index3, index4)` with matrix
  elements `<1|O1|2> <2|O2|3> <3|O3|4> <4|CX4|1>`, i.e. `O1 i1 i2 * O2 i2 i3 * O3 i3 i4 * CX4 i4 i1`.
  O1 and O3 are read from their RowMajor copies (outer index = row = index1 resp. index3),
  O2 and CX4 from their ColMajor copies (outer index = column = index3 resp. index1).

  For strictly increasing inner indices the enumeration returns exactly the list `worldLinesSpec`, in
  which no quadruple occurs twice; the weighted sum over it is the full quadruple sum, hence
  `orderedLehmann` (one block, or summed over block quadruples) and the definition of chi.  Memory safety
  holds for arbitrary storage.  No world line is missed or double-counted on inputs Eigen can produce
  (compressed storage keeps the inner indices strictly increasing); what happens outside the hypotheses
  is shown on the model by `decide`.
-/
import PomerolModel.Spec.SparseWalk
import PomerolModel.Spec.ListLemmas
import PomerolModel.Spec.Chi4

namespace Pomerol.Spec.Chi4Refine
open Pomerol.Model Pomerol.Model.Chi4Part Pomerol.Spec.SparseWalk

/-- strictly increasing inner indices (Eigen's compressed storage) -/
def SortedVec {K : Type} (v : SpVec K) : Prop := Pomerol.Properties.C17.Sorted (storedIdx v)

def SortedMat {K : Type} (m : SpMat K) : Prop := ∀ v ∈ m, SortedVec v

instance {K : Type} (m : SpMat K) : Decidable (SortedMat m) := by
  unfold SortedMat SortedVec Pomerol.Properties.C17.Sorted; infer_instance

def vec {K : Type} (m : SpMat K) (o : Nat) : SpVec K := m.getD o []

theorem sortedVec_nil {K : Type} : SortedVec ([] : SpVec K) := List.Pairwise.nil

theorem vec_cases {K : Type} {P : SpVec K → Prop} {m : SpMat K} (h0 : P []) (hm : ∀ v ∈ m, P v)
    (o : Nat) : P (vec m o) := by
  unfold vec
  rw [List.getD_eq_getElem?_getD]
  rcases h : m[o]? with _ | v
  · exact h0
  · exact hm v (List.mem_of_getElem? h)

theorem sortedVec_vec {K : Type} {m : SpMat K} (hm : SortedMat m) (o : Nat) : SortedVec (vec m o) :=
  vec_cases sortedVec_nil hm o

theorem outerVec_eq {K : Type} (m : SpMat K) (o : Nat) (h : o < m.length) :
    outerVec m o = .ok (vec m o) := by
  unfold outerVec vec
  rw [List.getD_eq_getElem?_getD, List.getElem?_eq_getElem h]
  rfl

theorem coeffIn_of_getElem? {K : Type} [Zero K] {v : SpVec K} (hv : SortedVec v) {p x : Nat} {val : K}
    (h : v[p]? = some (x, val)) : coeffIn v x = val := by
  unfold coeffIn
  rw [lookup_of_getElem? hv h]

theorem coeffIn_of_mem {K : Type} [Zero K] {v : SpVec K} (hv : SortedVec v) {i : Nat} {x : K}
    (h : (i, x) ∈ v) : coeffIn v i = x := by
  unfold coeffIn
  rw [(lookup_eq_some_iff_mem hv i x).mpr h]

theorem chase_coeffIn {K β : Type} [Zero K] (a b : SpVec K) (ha : SortedVec a) (hb : SortedVec b)
    (body : Nat → K → K → List β) :
    chase true a b body
      = .ok (((storedIdx a).filter (· ∈ storedIdx b)).flatMap
          fun x => body x (coeffIn a x) (coeffIn b x)) := by
  unfold chase
  rw [chase_sorted a b ha hb, List.nil_append]
  refine congrArg Except.ok (List.flatMap_congr fun x hx => ?_)
  obtain ⟨hxa, hxb⟩ := List.mem_filter.mp hx
  exact atCommon_coeffIn a b body hxa (of_decide_eq_true hxb)

/-- the Index4List loop (body: record the index) IS the merge walk of `Model/Chase.lean`, for
arbitrary outer vectors and either form of the advancing loops -/
theorem chaseWalk_indices_eq_mergeWalk {K : Type} (g : Bool) (a b : SpVec K) :
    ∀ fuel pa pb (acc : List Nat),
      chaseWalk g a b (fun x _ _ => [x]) fuel pa pb acc
        = Chase.mergeWalk g (storedIdx a) (storedIdx b) fuel pa pb acc := by
  intro fuel pa pb acc
  rcases chaseWalk_mergeWalk g a b (fun x _ _ => [x]) (fun l r => r = l)
    (fun _ _ _ _ _ _ _ _ _ h => by rw [h]) fuel pa pb acc acc rfl with
    ⟨l, r, h1, h2, rfl⟩ | ⟨e, h1, h2⟩
  · rw [h1, h2]
  · rw [h1, h2]

theorem chase_in_bounds {K β : Type} (a b : SpVec K) (body : Nat → K → K → List β) :
    ∃ r, chase true a b body = .ok r :=
  chaseWalk_in_bounds a b body _ 0 0 [] (Nat.zero_le _) (Nat.zero_le _) (Nat.lt_succ_self _)

/-- what one `(index1, index3)` cell must produce: all `index2` stored both in row index1 of O1 and in
column index3 of O2, and for each of them all `index4` stored both in row index3 of O3 and in column
index1 of CX4 (and passing the weight test of line 148), with the product of the four stored values -/
def cellSpec {K : Type} [Zero K] [Mul K] (keep : Nat → Nat → Nat → Nat → Bool)
    (o1row o2col o3row cx4col : SpVec K) (i1 i3 : Nat) : List (WorldLine K) :=
  ((storedIdx o1row).filter (· ∈ storedIdx o2col)).flatMap fun i2 =>
    (((storedIdx o3row).filter (· ∈ storedIdx cx4col)).filter (keep i1 i2 i3)).map fun i4 =>
      (i1, i2, i3, i4, coeffIn o1row i2 * coeffIn o2col i2 * coeffIn o3row i4 * coeffIn cx4col i4)

/-- the world lines the enumeration must visit, in the order of the source (index1, index3, index2, index4) -/
def worldLinesSpec {K : Type} [Zero K] [Mul K] (keep : Nat → Nat → Nat → Nat → Bool)
    (O1 O2 O3 CX4 : SpMat K) : List (WorldLine K) :=
  (List.range CX4.length).flatMap fun i1 => (List.range O2.length).flatMap fun i3 =>
    cellSpec keep (vec O1 i1) (vec O2 i3) (vec O3 i3) (vec CX4 i1) i1 i3

theorem forRange_ok {β : Type} (f : Nat → Except Err (List β)) (h : Nat → List β) :
    ∀ n, (∀ i, i < n → f i = .ok (h i)) → forRange f n = .ok ((List.range n).flatMap h) := by
  intro n
  induction n with
  | zero => intro _; rfl
  | succ n ih =>
    intro hf
    rw [forRange, ih (fun i hi => hf i (Nat.lt_succ_of_lt hi)), hf n (Nat.lt_succ_self n)]
    simp [List.range_succ, List.flatMap_append]

theorem cell_sorted {K : Type} [Zero K] [Mul K] (keep : Nat → Nat → Nat → Nat → Bool)
    (O1 O2 : SpMat K) (o3row cx4col : SpVec K) (i1 i3 : Nat)
    (h1 : SortedMat O1) (h2 : SortedMat O2) (h3 : SortedVec o3row) (h4 : SortedVec cx4col)
    (hi1 : i1 < O1.length) (hi3 : i3 < O2.length) :
    cell true keep O1 O2 o3row cx4col i1 i3
      = .ok (cellSpec keep (vec O1 i1) (vec O2 i3) o3row cx4col i1 i3) := by
  unfold cell
  rw [chase_coeffIn o3row cx4col h3 h4]
  dsimp only
  rw [List.flatMap_singleton']
  by_cases hempty : ((storedIdx o3row).filter (· ∈ storedIdx cx4col)).isEmpty = true
  · rw [if_pos hempty]
    rw [List.isEmpty_iff] at hempty
    unfold cellSpec
    rw [hempty]
    simp
  · rw [if_neg hempty, outerVec_eq O2 i3 hi3, outerVec_eq O1 i1 hi1]
    dsimp only
    rw [chase_coeffIn (vec O1 i1) (vec O2 i3) (sortedVec_vec h1 i1) (sortedVec_vec h2 i3)]
    rfl

/-- the outer sizes must be consistent: O1 has as many rows as CX4 has columns, O3 as many rows as
O2 has columns -/
theorem chi4part_worldlines {K : Type} [Zero K] [Mul K] (keep : Nat → Nat → Nat → Nat → Bool)
    (O1 O2 O3 CX4 : SpMat K) (h1 : SortedMat O1) (h2 : SortedMat O2) (h3 : SortedMat O3)
    (h4 : SortedMat CX4) (hrows1 : O1.length = CX4.length) (hrows3 : O3.length = O2.length) :
    compute true keep O1 O2 O3 CX4 = .ok (worldLinesSpec keep O1 O2 O3 CX4) := by
  unfold compute worldLinesSpec
  apply forRange_ok
  intro i1 hi1
  apply forRange_ok
  intro i3 hi3
  rw [outerVec_eq CX4 i1 hi1, outerVec_eq O3 i3 (hrows3 ▸ hi3)]
  dsimp only
  exact cell_sorted keep O1 O2 _ _ i1 i3 h1 h2 (sortedVec_vec h3 i3) (sortedVec_vec h4 i1)
    (hrows1 ▸ hi1) hi3

theorem forRange_in_bounds {β : Type} (f : Nat → Except Err (List β)) (n : Nat)
    (hf : ∀ i, i < n → ∃ r, f i = .ok r) : ∃ r, forRange f n = .ok r :=
  ⟨_, forRange_ok f (fun i => if h : i < n then (hf i h).choose else []) n fun i hi => by
    rw [dif_pos hi]; exact (hf i hi).choose_spec⟩

/-- MEMORY SAFETY of the whole enumeration, for ARBITRARY compressed matrices (sorted or not) with
consistent outer sizes (audited under property C17) -/
theorem compute_in_bounds {K : Type} [Zero K] [Mul K] (keep : Nat → Nat → Nat → Nat → Bool)
    (O1 O2 O3 CX4 : SpMat K) (hrows1 : O1.length = CX4.length) (hrows3 : O3.length = O2.length) :
    ∃ r, compute true keep O1 O2 O3 CX4 = .ok r := by
  unfold compute
  apply forRange_in_bounds
  intro i1 hi1
  apply forRange_in_bounds
  intro i3 hi3
  rw [outerVec_eq CX4 i1 hi1, outerVec_eq O3 i3 (hrows3 ▸ hi3)]
  dsimp only
  unfold cell
  obtain ⟨l, hl⟩ := chase_in_bounds (vec O3 i3) (vec CX4 i1) (fun i4 _ _ => [i4])
  rw [hl]
  dsimp only
  by_cases hempty : l.isEmpty = true
  · rw [if_pos hempty]; exact ⟨[], rfl⟩
  · rw [if_neg hempty, outerVec_eq O2 i3 hi3, outerVec_eq O1 i1 (hrows1 ▸ hi1)]
    dsimp only
    obtain ⟨r, hr⟩ := chase_in_bounds (vec O1 i1) (vec O2 i3) (fun i2 v1 v2 =>
      (l.filter (keep i1 i2 i3)).map fun i4 =>
        (i1, i2, i3, i4, v1 * v2 * coeffIn (vec O3 i3) i4 * coeffIn (vec CX4 i1) i4))
    rw [hr]
    exact ⟨r, rfl⟩

/-- why the outer sizes must agree: with more columns in CX4 than rows in O1 the source opens an iterator
on a non-existing row of O1 (undefined behaviour in C++; an explicit error in the model) -/
theorem inconsistent_outer_sizes_detected :
    compute (K := Nat) true (fun _ _ _ _ => true) [[(0, 1)]] [[(0, 1)]] [[(0, 1)]] [[(0, 1)], [(0, 1)]]
      = .error .outerOutOfRange := by
  decide

theorem sourceGuardFirst_eq : sourceGuardFirst = true := by decide

theorem chi4part_worldlines_source {K : Type} [Zero K] [Mul K] (keep : Nat → Nat → Nat → Nat → Bool)
    (O1 O2 O3 CX4 : SpMat K) (h1 : SortedMat O1) (h2 : SortedMat O2) (h3 : SortedMat O3)
    (h4 : SortedMat CX4) (hrows1 : O1.length = CX4.length) (hrows3 : O3.length = O2.length) :
    computeAsSource keep O1 O2 O3 CX4 = .ok (worldLinesSpec keep O1 O2 O3 CX4) := by
  unfold computeAsSource
  rw [sourceGuardFirst_eq]
  exact chi4part_worldlines keep O1 O2 O3 CX4 h1 h2 h3 h4 hrows1 hrows3

theorem lt_length_of_mem_vec {K : Type} {m : SpMat K} {o : Nat} {e : Nat × K} (h : e ∈ vec m o) :
    o < m.length := by
  rcases Nat.lt_or_ge o m.length with hlt | hge
  · exact hlt
  · unfold vec at h
    rw [List.getD_eq_getElem?_getD, List.getElem?_eq_none hge] at h
    simp at h

theorem mem_worldLinesSpec_iff {K : Type} [Zero K] [Mul K] (keep : Nat → Nat → Nat → Nat → Bool)
    (O1 O2 O3 CX4 : SpMat K) (h1 : SortedMat O1) (h2 : SortedMat O2) (h3 : SortedMat O3)
    (h4 : SortedMat CX4) (wl : WorldLine K) :
    wl ∈ worldLinesSpec keep O1 O2 O3 CX4 ↔
      ∃ i1 i2 i3 i4 v1 v2 v3 v4, (i2, v1) ∈ vec O1 i1 ∧ (i2, v2) ∈ vec O2 i3 ∧ (i4, v3) ∈ vec O3 i3 ∧
        (i4, v4) ∈ vec CX4 i1 ∧ keep i1 i2 i3 i4 = true ∧ wl = (i1, i2, i3, i4, v1 * v2 * v3 * v4) := by
  unfold worldLinesSpec cellSpec
  simp only [List.mem_flatMap, List.mem_range, List.mem_filter, List.mem_map, decide_eq_true_eq]
  constructor
  · rintro ⟨i1, hi1, i3, hi3, i2, ⟨hm1, hm2⟩, i4, ⟨⟨hm3, hm4⟩, hk⟩, rfl⟩
    obtain ⟨v1, hv1⟩ := (mem_storedIdx_iff _ _).mp hm1
    obtain ⟨v2, hv2⟩ := (mem_storedIdx_iff _ _).mp hm2
    obtain ⟨v3, hv3⟩ := (mem_storedIdx_iff _ _).mp hm3
    obtain ⟨v4, hv4⟩ := (mem_storedIdx_iff _ _).mp hm4
    refine ⟨i1, i2, i3, i4, v1, v2, v3, v4, hv1, hv2, hv3, hv4, hk, ?_⟩
    rw [coeffIn_of_mem (sortedVec_vec h1 i1) hv1, coeffIn_of_mem (sortedVec_vec h2 i3) hv2,
      coeffIn_of_mem (sortedVec_vec h3 i3) hv3, coeffIn_of_mem (sortedVec_vec h4 i1) hv4]
  · rintro ⟨i1, i2, i3, i4, v1, v2, v3, v4, hv1, hv2, hv3, hv4, hk, rfl⟩
    refine ⟨i1, lt_length_of_mem_vec hv4, i3, lt_length_of_mem_vec hv2, i2,
      ⟨(mem_storedIdx_iff _ _).mpr ⟨v1, hv1⟩, (mem_storedIdx_iff _ _).mpr ⟨v2, hv2⟩⟩, i4,
      ⟨⟨(mem_storedIdx_iff _ _).mpr ⟨v3, hv3⟩, (mem_storedIdx_iff _ _).mpr ⟨v4, hv4⟩⟩, hk⟩, ?_⟩
    rw [coeffIn_of_mem (sortedVec_vec h1 i1) hv1, coeffIn_of_mem (sortedVec_vec h2 i3) hv2,
      coeffIn_of_mem (sortedVec_vec h3 i3) hv3, coeffIn_of_mem (sortedVec_vec h4 i1) hv4]

def quad {K : Type} (wl : WorldLine K) : Nat × Nat × Nat × Nat := (wl.1, wl.2.1, wl.2.2.1, wl.2.2.2.1)

/-- EACH EXACTLY ONCE: hence, by `chi4part_worldlines`, no quadruple is visited twice by the
enumeration -/
theorem worldLinesSpec_quad_nodup {K : Type} [Zero K] [Mul K] (keep : Nat → Nat → Nat → Nat → Bool)
    (O1 O2 O3 CX4 : SpMat K) (h1 : SortedMat O1) (h3 : SortedMat O3) :
    ((worldLinesSpec keep O1 O2 O3 CX4).map quad).Nodup := by
  unfold worldLinesSpec cellSpec
  simp only [List.map_flatMap, List.map_map]
  -- every `flatMap` level is keyed by one coordinate of the quadruple (`i1`, then `i3`, then `i2`,
  -- each running over a duplicate-free list); inside, `i4 ↦ quadruple` is injective
  refine nodup_flatMap_of_key _ _ (fun q => q.1) id ?_ ?_ fun i1 _ => ?_
  · rw [List.map_id]; exact List.nodup_range
  · intro i1 _ q hq
    simp only [List.mem_flatMap, List.mem_map, Function.comp] at hq
    obtain ⟨_, _, _, _, _, _, rfl⟩ := hq
    rfl
  refine nodup_flatMap_of_key _ _ (fun q => q.2.2.1) id ?_ ?_ fun i3 _ => ?_
  · rw [List.map_id]; exact List.nodup_range
  · intro i3 _ q hq
    simp only [List.mem_flatMap, List.mem_map, Function.comp] at hq
    obtain ⟨_, _, _, _, rfl⟩ := hq
    rfl
  refine nodup_flatMap_of_key _ _ (fun q => q.2.1) id ?_ ?_ fun i2 _ => ?_
  · rw [List.map_id]
    exact List.Nodup.filter _ (nodup_storedIdx (sortedVec_vec h1 i1))
  · intro i2 _ q hq
    simp only [List.mem_map, Function.comp] at hq
    obtain ⟨_, _, rfl⟩ := hq
    rfl
  refine List.Nodup.map ?_ (List.Nodup.filter _ (List.Nodup.filter _
    (nodup_storedIdx (sortedVec_vec h3 i3))))
  intro a b hab
  simp only [Function.comp, quad, Prod.mk.injEq] at hab
  exact hab.2.2.2

/-- If a row of O1 were stored with decreasing inner indices, the chase would MISS a world line:
row 0 of O1 = {1 ↦ 1, 0 ↦ 1} (in this order), column 0 of O2 = {0 ↦ 1, 1 ↦ 1}; both index2 = 0 and
index2 = 1 have all four entries stored, but only index2 = 1 is visited.  (Eigen's compressed
storage keeps inner indices increasing, so this does not happen with the library's matrices.) -/
theorem unsorted_row_misses_worldline :
    compute (K := Nat) true (fun _ _ _ _ => true) [[(1, 1), (0, 1)]] [[(0, 1), (1, 1)]] [[(0, 1)]] [[(0, 1)]]
      = .ok [(0, 1, 0, 0, 1)] ∧
    worldLinesSpec (K := Nat) (fun _ _ _ _ => true) [[(1, 1), (0, 1)]] [[(0, 1), (1, 1)]] [[(0, 1)]] [[(0, 1)]]
      = [(0, 1, 0, 0, 1), (0, 0, 0, 0, 1)] := by
  decide

/-- a duplicated inner index is visited once by the walk (the iterators are advanced together after a
match), while the filter specification would list it twice: strictness of the order is needed too -/
theorem duplicate_index_visited_once :
    compute (K := Nat) true (fun _ _ _ _ => true) [[(0, 2), (0, 3)]] [[(0, 1)]] [[(0, 1)]] [[(0, 1)]]
      = .ok [(0, 0, 0, 0, 2)] ∧
    worldLinesSpec (K := Nat) (fun _ _ _ _ => true) [[(0, 2), (0, 3)]] [[(0, 1)]] [[(0, 1)]] [[(0, 1)]]
      = [(0, 0, 0, 0, 2), (0, 0, 0, 0, 2)] := by
  decide

section sums
open Finset
variable {K : Type} [Semiring K]

def weighted (g : ℕ → ℕ → ℕ → ℕ → K) (wl : WorldLine K) : K :=
  g wl.1 wl.2.1 wl.2.2.1 wl.2.2.2.1 * wl.2.2.2.2

theorem cellSpec_sum (keep : ℕ → ℕ → ℕ → ℕ → Bool) (g : ℕ → ℕ → ℕ → ℕ → K)
    (r1 c2 r3 c4 : SpVec K) (i1 i3 n2 n4 : ℕ) (hs1 : SortedVec r1) (hs3 : SortedVec r3)
    (hb1 : ∀ i ∈ storedIdx r1, i < n2) (hb3 : ∀ i ∈ storedIdx r3, i < n4) :
    ((cellSpec keep r1 c2 r3 c4 i1 i3).map (weighted g)).sum
      = ∑ i2 : Fin n2, ∑ i4 : Fin n4,
          (if keep i1 i2 i3 i4 then g i1 i2 i3 i4 else 0)
            * coeffIn r1 i2 * coeffIn c2 i2 * coeffIn r3 i4 * coeffIn c4 i4 := by
  unfold cellSpec
  -- both walks: the sum over the commonly stored indices is the sum over all indices
  rw [sum_map_flatMap, ← sum_common r1 c2 hs1 hb1
    (fun i2 x y => ∑ i4 : Fin n4, (if keep i1 i2 i3 i4 then g i1 i2 i3 i4 else 0) * x * y
      * coeffIn r3 i4 * coeffIn c4 i4)
    (fun _ _ => Finset.sum_eq_zero fun _ _ => by simp only [mul_zero, zero_mul])
    (fun _ _ => Finset.sum_eq_zero fun _ _ => by simp only [mul_zero, zero_mul])]
  refine congrArg List.sum (List.map_congr_left fun i2 _ => ?_)
  rw [List.map_map, sum_map_filter, ← sum_common r3 c4 hs3 hb3
    (fun i4 x y => (if keep i1 i2 i3 i4 then g i1 i2 i3 i4 else 0) * coeffIn r1 i2 * coeffIn c2 i2
      * x * y) (fun _ _ => by simp only [mul_zero, zero_mul]) (fun _ _ => mul_zero _)]
  refine congrArg List.sum (List.map_congr_left fun i4 _ => ?_)
  unfold weighted
  by_cases hk : keep i1 i2 i3 i4 = true
  · simp only [Function.comp, if_pos hk, mul_assoc]
  · simp only [Function.comp, if_neg hk, zero_mul]

theorem worldLinesSpec_sum (keep : ℕ → ℕ → ℕ → ℕ → Bool) (g : ℕ → ℕ → ℕ → ℕ → K)
    (O1 O2 O3 CX4 : SpMat K) (n2 n4 : ℕ) (h1 : SortedMat O1) (h3 : SortedMat O3)
    (hb1 : ∀ v ∈ O1, ∀ i ∈ storedIdx v, i < n2) (hb3 : ∀ v ∈ O3, ∀ i ∈ storedIdx v, i < n4) :
    ((worldLinesSpec keep O1 O2 O3 CX4).map (weighted g)).sum
      = ∑ i1 ∈ range CX4.length, ∑ i2 : Fin n2, ∑ i3 ∈ range O2.length, ∑ i4 : Fin n4,
          (if keep i1 i2 i3 i4 then g i1 i2 i3 i4 else 0)
            * coeffIn (vec O1 i1) i2 * coeffIn (vec O2 i3) i2
            * coeffIn (vec O3 i3) i4 * coeffIn (vec CX4 i1) i4 := by
  unfold worldLinesSpec
  rw [sum_map_flatMap, sum_map_range]
  apply Finset.sum_congr rfl
  intro i1 _
  rw [sum_map_flatMap, sum_map_range, Finset.sum_comm]
  apply Finset.sum_congr rfl
  intro i3 _
  exact cellSpec_sum keep g _ _ _ _ i1 i3 n2 n4 (sortedVec_vec h1 i1) (sortedVec_vec h3 i3)
    (vec_cases (fun _ h => nomatch h) hb1 i1) (vec_cases (fun _ h => nomatch h) hb3 i3)

end sums

section dense
open Finset Matrix
variable {K : Type} [Semiring K]

/-- the RowMajor compressed matrix `m` represents the dense `r × c` matrix `A`
(`A i j = m.coeff(i, j)`: a stored value is the entry, an entry that is not stored is 0) -/
structure RowMajorOf (m : SpMat K) {r c : ℕ} (A : Matrix (Fin r) (Fin c) K) : Prop where
  outerSize : m.length = r
  sorted : SortedMat m
  innerLt : ∀ v ∈ m, ∀ i ∈ storedIdx v, i < c
  entry : ∀ (i : Fin r) (j : Fin c), A i j = coeffIn (vec m i) j

/-- one outer vector per COLUMN, inner index = row -/
def ColMajorOf (m : SpMat K) {r c : ℕ} (A : Matrix (Fin r) (Fin c) K) : Prop := RowMajorOf m Aᵀ

theorem chi4part_sum_eq_full_sum_keep {n1 n2 n3 n4 : ℕ}
    (A1 : Matrix (Fin n1) (Fin n2) K) (A2 : Matrix (Fin n2) (Fin n3) K)
    (A3 : Matrix (Fin n3) (Fin n4) K) (X4 : Matrix (Fin n4) (Fin n1) K)
    (O1 O2 O3 CX4 : SpMat K) (h1 : RowMajorOf O1 A1) (h2 : ColMajorOf O2 A2)
    (h3 : RowMajorOf O3 A3) (h4 : ColMajorOf CX4 X4)
    (keep : ℕ → ℕ → ℕ → ℕ → Bool) (g : ℕ → ℕ → ℕ → ℕ → K) :
    ∃ wls, computeAsSource keep O1 O2 O3 CX4 = .ok wls ∧
      (wls.map (weighted g)).sum
        = ∑ i1 : Fin n1, ∑ i2 : Fin n2, ∑ i3 : Fin n3, ∑ i4 : Fin n4,
            (if keep i1 i2 i3 i4 then g i1 i2 i3 i4 else 0)
              * A1 i1 i2 * A2 i2 i3 * A3 i3 i4 * X4 i4 i1 := by
  refine ⟨_, chi4part_worldlines_source keep O1 O2 O3 CX4 h1.sorted h2.sorted h3.sorted h4.sorted
    (by rw [h1.outerSize, h4.outerSize]) (by rw [h3.outerSize, h2.outerSize]), ?_⟩
  rw [worldLinesSpec_sum keep g O1 O2 O3 CX4 n2 n4 h1.sorted h3.sorted h1.innerLt h3.innerLt,
    h4.outerSize, h2.outerSize, Finset.sum_range]
  apply Finset.sum_congr rfl; intro i1 _
  apply Finset.sum_congr rfl; intro i2 _
  rw [Finset.sum_range]
  apply Finset.sum_congr rfl; intro i3 _
  apply Finset.sum_congr rfl; intro i4 _
  rw [h1.entry i1 i2, h3.entry i3 i4]
  have e2 := h2.entry i3 i2
  have e4 := h4.entry i1 i4
  rw [Matrix.transpose_apply] at e2 e4
  rw [e2, e4]

/-- THE SPARSE ENUMERATION LOSES NOTHING AND ADDS NOTHING (C02, `sparse_enumeration_is_full_sum`);
index conventions of the C++: `<1|O1|2><2|O2|3><3|O3|4><4|CX4|1>` -/
theorem chi4part_sum_eq_full_sum {n1 n2 n3 n4 : ℕ}
    (A1 : Matrix (Fin n1) (Fin n2) K) (A2 : Matrix (Fin n2) (Fin n3) K)
    (A3 : Matrix (Fin n3) (Fin n4) K) (X4 : Matrix (Fin n4) (Fin n1) K)
    (O1 O2 O3 CX4 : SpMat K) (h1 : RowMajorOf O1 A1) (h2 : ColMajorOf O2 A2)
    (h3 : RowMajorOf O3 A3) (h4 : ColMajorOf CX4 X4) (g : ℕ → ℕ → ℕ → ℕ → K) :
    ∃ wls, computeAsSource (fun _ _ _ _ => true) O1 O2 O3 CX4 = .ok wls ∧
      (wls.map (weighted g)).sum
        = ∑ i1 : Fin n1, ∑ i2 : Fin n2, ∑ i3 : Fin n3, ∑ i4 : Fin n4,
            g i1 i2 i3 i4 * A1 i1 i2 * A2 i2 i3 * A3 i3 i4 * X4 i4 i1 := by
  obtain ⟨wls, hw, hs⟩ :=
    chi4part_sum_eq_full_sum_keep A1 A2 A3 X4 O1 O2 O3 CX4 h1 h2 h3 h4 (fun _ _ _ _ => true) g
  -- with the constant test, `if true = true then x else 0` is `x` by reduction
  exact ⟨wls, hw, hs⟩

/-- the compressed RowMajor copy of a dense matrix in which exactly the entries with `keepEntry` are
stored (`sparseView`/`prune`): row by row, increasing column index -/
def storeRows {r c : ℕ} (keepEntry : K → Bool) (A : Matrix (Fin r) (Fin c) K) : SpMat K :=
  (List.finRange r).map fun i =>
    ((List.finRange c).map fun j => (j.val, A i j)).filter fun e => keepEntry e.2

/-- NON-VACUITY of the representation hypotheses: every dense matrix is represented by its pruned
compressed copy, provided only zeros are pruned -/
theorem storeRows_rowMajorOf {r c : ℕ} (keepEntry : K → Bool) (hk : ∀ x, keepEntry x = false → x = 0)
    (A : Matrix (Fin r) (Fin c) K) : RowMajorOf (storeRows keepEntry A) A := by
  have hfull : ∀ i : Fin r, storedIdx ((List.finRange c).map fun j => (j.val, A i j)) = List.range c := by
    intro i
    unfold storedIdx
    rw [List.map_map]
    exact List.map_coe_finRange_eq_range
  have hsub : ∀ i : Fin r, List.Sublist
      (storedIdx (((List.finRange c).map fun j => (j.val, A i j)).filter fun e => keepEntry e.2))
      (List.range c) := by
    intro i
    rw [← hfull i]
    exact List.Sublist.map _ List.filter_sublist
  have hvec : ∀ i : Fin r, vec (storeRows keepEntry A) i
      = ((List.finRange c).map fun j => (j.val, A i j)).filter fun e => keepEntry e.2 := by
    intro i
    unfold vec storeRows
    rw [List.getD_eq_getElem?_getD, List.getElem?_map, List.getElem?_eq_getElem (by simp)]
    simp
  have hsorted : SortedMat (storeRows keepEntry A) := by
    intro v hv
    unfold storeRows at hv
    obtain ⟨i, _, rfl⟩ := List.mem_map.mp hv
    exact List.Pairwise.sublist (hsub i) List.pairwise_lt_range
  refine ⟨by simp [storeRows], hsorted, ?_, ?_⟩
  · intro v hv j hj
    unfold storeRows at hv
    obtain ⟨i, _, rfl⟩ := List.mem_map.mp hv
    exact List.mem_range.mp ((hsub i).subset hj)
  · intro i j
    by_cases hkeep : keepEntry (A i j) = true
    · symm
      apply coeffIn_of_mem (sortedVec_vec hsorted i)
      rw [hvec i, List.mem_filter]
      exact ⟨List.mem_map.mpr ⟨j, List.mem_finRange j, rfl⟩, hkeep⟩
    · rw [coeffIn_of_not_mem]
      · exact hk _ (by simpa using hkeep)
      · rw [hvec i, mem_storedIdx_iff]
        rintro ⟨x, hx⟩
        rw [List.mem_filter] at hx
        obtain ⟨j', _, hj'⟩ := List.mem_map.mp hx.1
        simp only [Prod.mk.injEq] at hj'
        have : j' = j := Fin.ext hj'.1
        subst this
        rw [← hj'.2] at hx
        exact hkeep hx.2

theorem storeRows_colMajorOf {r c : ℕ} (keepEntry : K → Bool) (hk : ∀ x, keepEntry x = false → x = 0)
    (A : Matrix (Fin r) (Fin c) K) : ColMajorOf (storeRows keepEntry Aᵀ) A :=
  storeRows_rowMajorOf keepEntry hk Aᵀ

end dense

section lehmann
open Finset Matrix Pomerol.Spec

/-- extension by 0 of a function on `Fin n` to all natural numbers (world lines carry natural numbers) -/
def natExt {n : ℕ} (f : Fin n → ℝ) (i : ℕ) : ℝ := if h : i < n then f ⟨i, h⟩ else 0

theorem natExt_val {n : ℕ} (f : Fin n → ℝ) (i : Fin n) : natExt f i = f i := by
  unfold natExt
  rw [dif_pos i.isLt]

/-- the factor `addMultiterm` attaches to the matrix-element product of the world line `(i1,i2,i3,i4)`:
the library's multi-term with the level differences and weights of the four states -/
noncomputable def lehmannWeight {n : ℕ} (d : EigenData (Fin n)) (za zb zc : ℂ) (i1 i2 i3 i4 : ℕ) : ℂ :=
  multiTerm d.β za zb zc (natExt d.E i2 - natExt d.E i1) (natExt d.E i3 - natExt d.E i2)
    (natExt d.E i4 - natExt d.E i3) (natExt d.w i1) (natExt d.w i2) (natExt d.w i3) (natExt d.w i4)

/-- one block = the whole state space: the enumeration (no weight cut-off) computes the
per-ordering Lehmann sum `orderedLehmann` -/
theorem part_enumeration_refines_ordered_lehmann {n : ℕ} (d : EigenData (Fin n))
    (A Bm Cc X : Matrix (Fin n) (Fin n) ℂ) (O1 O2 O3 CX4 : SpMat ℂ)
    (h1 : RowMajorOf O1 A) (h2 : ColMajorOf O2 Bm) (h3 : RowMajorOf O3 Cc) (h4 : ColMajorOf CX4 X)
    (za zb zc : ℂ) :
    ∃ wls, computeAsSource (fun _ _ _ _ => true) O1 O2 O3 CX4 = .ok wls ∧
      (wls.map (weighted (lehmannWeight d za zb zc))).sum = d.orderedLehmann A Bm Cc X za zb zc := by
  obtain ⟨wls, hw, hs⟩ :=
    chi4part_sum_eq_full_sum A Bm Cc X O1 O2 O3 CX4 h1 h2 h3 h4 (lehmannWeight d za zb zc)
  refine ⟨wls, hw, ?_⟩
  rw [hs]
  unfold EigenData.orderedLehmann
  refine Finset.sum_congr rfl fun i1 _ => Finset.sum_congr rfl fun i2 _ =>
    Finset.sum_congr rfl fun i3 _ => Finset.sum_congr rfl fun i4 _ => ?_
  unfold lehmannWeight
  simp only [natExt_val]
  ring

/-- ... hence the contribution of one time ordering to the DEFINITION (the ordered triple integral
of the four-operator correlator), at fermionic frequencies -/
theorem part_enumeration_is_ordered_integral {n : ℕ} (d : EigenData (Fin n))
    (A Bm Cc X : Matrix (Fin n) (Fin n) ℂ) (O1 O2 O3 CX4 : SpMat ℂ)
    (h1 : RowMajorOf O1 A) (h2 : ColMajorOf O2 Bm) (h3 : RowMajorOf O3 Cc) (h4 : ColMajorOf CX4 X)
    (za zb zc : ℂ) (ha : Complex.exp ((d.β:ℂ) * za) = -1) (hb : Complex.exp ((d.β:ℂ) * zb) = -1)
    (hc : Complex.exp ((d.β:ℂ) * zc) = -1) :
    ∃ wls, computeAsSource (fun _ _ _ _ => true) O1 O2 O3 CX4 = .ok wls ∧
      (wls.map (weighted (lehmannWeight d za zb zc))).sum = d.orderedIntegral A Bm Cc X za zb zc := by
  obtain ⟨wls, hw, hs⟩ :=
    part_enumeration_refines_ordered_lehmann d A Bm Cc X O1 O2 O3 CX4 h1 h2 h3 h4 za zb zc
  exact ⟨wls, hw, by rw [hs, ordered_lehmann d A Bm Cc X za zb zc ha hb hc]⟩

variable {B : Type} [Fintype B] {sz : B → ℕ}

def blockOf (M : Matrix (Σ b, Fin (sz b)) (Σ b, Fin (sz b)) ℂ) (b b' : B) :
    Matrix (Fin (sz b)) (Fin (sz b')) ℂ := fun i j => M ⟨b, i⟩ ⟨b', j⟩

/-- the multi-term factor of a world line of the part `(b1, b2, b3, b4)`; indices are inner indices
within the blocks, the weights are the global Gibbs weights -/
noncomputable def blockWeight (d : EigenData (Σ b, Fin (sz b))) (za zb zc : ℂ) (b1 b2 b3 b4 : B)
    (i1 i2 i3 i4 : ℕ) : ℂ :=
  multiTerm d.β za zb zc
    (natExt (fun i => d.E ⟨b2, i⟩) i2 - natExt (fun i => d.E ⟨b1, i⟩) i1)
    (natExt (fun i => d.E ⟨b3, i⟩) i3 - natExt (fun i => d.E ⟨b2, i⟩) i2)
    (natExt (fun i => d.E ⟨b4, i⟩) i4 - natExt (fun i => d.E ⟨b3, i⟩) i3)
    (natExt (fun i => d.w ⟨b1, i⟩) i1) (natExt (fun i => d.w ⟨b2, i⟩) i2)
    (natExt (fun i => d.w ⟨b3, i⟩) i3) (natExt (fun i => d.w ⟨b4, i⟩) i4)

/-- the value accumulated by one part: sum over its visited world lines (0 if the enumeration failed) -/
noncomputable def partValue (d : EigenData (Σ b, Fin (sz b))) (za zb zc : ℂ) (b1 b2 b3 b4 : B)
    (O1 O2 O3 CX4 : SpMat ℂ) : ℂ :=
  match computeAsSource (fun _ _ _ _ => true) O1 O2 O3 CX4 with
  | .ok wls => (wls.map (weighted (blockWeight d za zb zc b1 b2 b3 b4))).sum
  | .error _ => 0

theorem partValue_eq (d : EigenData (Σ b, Fin (sz b))) (za zb zc : ℂ) (b1 b2 b3 b4 : B)
    (A Bm Cc X : Matrix (Σ b, Fin (sz b)) (Σ b, Fin (sz b)) ℂ) (O1 O2 O3 CX4 : SpMat ℂ)
    (h1 : RowMajorOf O1 (blockOf A b1 b2)) (h2 : ColMajorOf O2 (blockOf Bm b2 b3))
    (h3 : RowMajorOf O3 (blockOf Cc b3 b4)) (h4 : ColMajorOf CX4 (blockOf X b4 b1)) :
    partValue d za zb zc b1 b2 b3 b4 O1 O2 O3 CX4
      = ∑ i1 : Fin (sz b1), ∑ i2 : Fin (sz b2), ∑ i3 : Fin (sz b3), ∑ i4 : Fin (sz b4),
          A ⟨b1, i1⟩ ⟨b2, i2⟩ * Bm ⟨b2, i2⟩ ⟨b3, i3⟩ * Cc ⟨b3, i3⟩ ⟨b4, i4⟩ * X ⟨b4, i4⟩ ⟨b1, i1⟩ *
            multiTerm d.β za zb zc (d.E ⟨b2, i2⟩ - d.E ⟨b1, i1⟩) (d.E ⟨b3, i3⟩ - d.E ⟨b2, i2⟩)
              (d.E ⟨b4, i4⟩ - d.E ⟨b3, i3⟩) (d.w ⟨b1, i1⟩) (d.w ⟨b2, i2⟩) (d.w ⟨b3, i3⟩)
              (d.w ⟨b4, i4⟩) := by
  obtain ⟨wls, hw, hs⟩ := chi4part_sum_eq_full_sum _ _ _ _ O1 O2 O3 CX4 h1 h2 h3 h4
    (blockWeight d za zb zc b1 b2 b3 b4)
  unfold partValue
  rw [hw]
  dsimp only
  rw [hs]
  refine Finset.sum_congr rfl fun i1 _ => Finset.sum_congr rfl fun i2 _ =>
    Finset.sum_congr rfl fun i3 _ => Finset.sum_congr rfl fun i4 _ => ?_
  unfold blockWeight blockOf
  simp only [natExt_val]
  ring

/-- block form, as the library is organised: every operator stored block by block (blocks without
matrix elements are empty compressed matrices); the parts of ALL quadruples of blocks add up to
`orderedLehmann` -/
theorem parts_enumeration_refines_ordered_lehmann (d : EigenData (Σ b, Fin (sz b)))
    (A Bm Cc X : Matrix (Σ b, Fin (sz b)) (Σ b, Fin (sz b)) ℂ) (O1 O2 O3 CX4 : B → B → SpMat ℂ)
    (h1 : ∀ b b', RowMajorOf (O1 b b') (blockOf A b b'))
    (h2 : ∀ b b', ColMajorOf (O2 b b') (blockOf Bm b b'))
    (h3 : ∀ b b', RowMajorOf (O3 b b') (blockOf Cc b b'))
    (h4 : ∀ b b', ColMajorOf (CX4 b b') (blockOf X b b')) (za zb zc : ℂ) :
    ∑ b1, ∑ b2, ∑ b3, ∑ b4,
        partValue d za zb zc b1 b2 b3 b4 (O1 b1 b2) (O2 b2 b3) (O3 b3 b4) (CX4 b4 b1)
      = d.orderedLehmann A Bm Cc X za zb zc := by
  unfold EigenData.orderedLehmann
  rw [sum_sigma_quads]
  exact Finset.sum_congr rfl fun b1 _ => Finset.sum_congr rfl fun b2 _ =>
    Finset.sum_congr rfl fun b3 _ => Finset.sum_congr rfl fun b4 _ =>
      partValue_eq d za zb zc b1 b2 b3 b4 A Bm Cc X _ _ _ _ (h1 _ _) (h2 _ _) (h3 _ _) (h4 _ _)

/-- the DEFINITION of the two-particle Green's function equals the signed sum over the six
permutations and over all quadruples of blocks of what the sparse enumeration of
`TwoParticleGFPart::compute` accumulates -- at fermionic frequencies -/
theorem chi_definition_is_sum_over_parts [DecidableEq B] (d : EigenData (Σ b, Fin (sz b)))
    (O : Fin 3 → Matrix (Σ b, Fin (sz b)) (Σ b, Fin (sz b)) ℂ)
    (X : Matrix (Σ b, Fin (sz b)) (Σ b, Fin (sz b)) ℂ)
    (R C : Fin 3 → B → B → SpMat ℂ) (CX : B → B → SpMat ℂ)
    (hR : ∀ k b b', RowMajorOf (R k b b') (blockOf (O k) b b'))
    (hC : ∀ k b b', ColMajorOf (C k b b') (blockOf (O k) b b'))
    (hX : ∀ b b', ColMajorOf (CX b b') (blockOf X b b'))
    (z : Fin 3 → ℂ) (hz : ∀ k, Complex.exp ((d.β:ℂ) * z k) = -1) :
    d.chiDef O X z
      = (perms3.map fun p => (p.2 : ℂ) * ∑ b1, ∑ b2, ∑ b3, ∑ b4,
          partValue d (z (p.1 0)) (z (p.1 1)) (z (p.1 2)) b1 b2 b3 b4
            (R (p.1 0) b1 b2) (C (p.1 1) b2 b3) (R (p.1 2) b3 b4) (CX b4 b1)).sum := by
  rw [chi_lehmann d O X z hz]
  unfold EigenData.chiLehmann
  refine congrArg List.sum (List.map_congr_left fun p _ => ?_)
  rw [parts_enumeration_refines_ordered_lehmann d (O (p.1 0)) (O (p.1 1)) (O (p.1 2)) X
    (R (p.1 0)) (C (p.1 1)) (R (p.1 2)) CX (hR _) (hC _) (hR _) hX]

end lehmann

end Pomerol.Spec.Chi4Refine
