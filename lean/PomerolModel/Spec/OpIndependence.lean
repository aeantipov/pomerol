/-
  Linear independence of the normal-ordered monomials in the Jordan-Wigner representation; hence
  the (repaired) equality test `operator==` decides equality of Jordan-Wigner matrices on
  canonical polynomials.
-/
import PomerolModel.Spec.JW
import PomerolModel.Spec.NormalizeTotal
import Mathlib.Data.List.Perm.Subperm
import Mathlib.Data.List.Nodup

namespace Pomerol.Spec
open Pomerol.Model
open scoped Pomerol.Spec.Exact

theorem opLt_irrefl (a : Op) : a.lt a = false := by
  cases a with | mk aa ai => cases aa <;> simp [Op.lt]

theorem opLt_trans {a b c : Op} (h1 : a.lt b = true) (h2 : b.lt c = true) : a.lt c = true := by
  cases a with | mk aa ai => cases b with | mk ba bi => cases c with | mk ca ci =>
  cases aa <;> cases ba <;> cases ca <;> simp [Op.lt] at h1 h2 ⊢ <;> omega

theorem lexLt_asymm : ∀ (a b : Mono), lexLt a b = true → lexLt b a = false
  | [], [], h => by simp [lexLt] at h
  | [], _ :: _, _ => by simp [lexLt]
  | _ :: _, [], h => by simp [lexLt] at h
  | x :: a, y :: b, h => by
    unfold lexLt at h ⊢
    by_cases h1 : x.lt y = true
    · simp [h1, opLt_asymm h1]
    · by_cases h2 : y.lt x = true
      · simp [h1, h2] at h
      · simp only [h1, h2, Bool.false_eq_true, if_false] at h ⊢
        exact lexLt_asymm a b h

theorem monoLt_asymm (a b : Mono) (h : monoLt a b = true) : monoLt b a = false := by
  unfold monoLt at h ⊢
  by_cases hl : a.length = b.length
  · simp only [hl, ne_eq, not_true_eq_false, if_false] at h ⊢
    exact lexLt_asymm a b h
  · have hl' : ¬ b.length = a.length := fun e => hl e.symm
    simp only [hl, hl', ne_eq, not_false_eq_true, if_true, decide_eq_true_eq,
      decide_eq_false_iff_not] at h ⊢
    exact Nat.lt_asymm h

theorem monoLt_ne (a b : Mono) (h : monoLt a b = true) : a ≠ b := by
  rintro rfl
  have := monoLt_asymm a a h
  rw [h] at this
  cases this

def cres (m : Mono) : List Nat := (m.filter (fun o => !o.ann)).map (·.idx)
def anns (m : Mono) : List Nat := (m.filter (fun o => o.ann)).map (·.idx)

theorem normalMono_pairwise : ∀ (m : Mono), NormalMono m → m.Pairwise (fun a b => a.lt b = true)
  | [], _ => List.Pairwise.nil
  | [a], _ => by simp
  | a :: b :: rest, h => by
    have ih := normalMono_pairwise (b :: rest) h.2
    refine List.Pairwise.cons ?_ ih
    intro x hx
    rcases List.mem_cons.1 hx with rfl | hx
    · exact h.1
    · exact opLt_trans h.1 ((List.pairwise_cons.1 ih).1 x hx)

theorem pairwise_decomp : ∀ (m : Mono), m.Pairwise (fun a b => a.lt b = true) →
    m = (cres m).map (Op.mk false) ++ (anns m).map (Op.mk true) ∧
    (cres m).Pairwise (· < ·) ∧ (anns m).Pairwise (· < ·)
  | [], _ => by simp [cres, anns]
  | ⟨false, i⟩ :: rest, h => by
    rw [List.pairwise_cons] at h
    obtain ⟨h1, h2, h3⟩ := pairwise_decomp rest h.2
    have hc : cres (⟨false, i⟩ :: rest) = i :: cres rest := by simp [cres]
    have ha : anns (⟨false, i⟩ :: rest) = anns rest := by simp [anns]
    rw [hc, ha]
    refine ⟨?_, ?_, h3⟩
    · rw [List.map_cons, List.cons_append, ← h1]
    · refine List.Pairwise.cons ?_ h2
      intro j hj
      simp only [cres, List.mem_map, List.mem_filter] at hj
      obtain ⟨o, ⟨ho, hoa⟩, rfl⟩ := hj
      have := h.1 o ho
      obtain ⟨oa, oi⟩ := o
      cases oa
      · simpa [Op.lt] using this
      · simp at hoa
  | ⟨true, i⟩ :: rest, h => by
    rw [List.pairwise_cons] at h
    obtain ⟨h1, h2, h3⟩ := pairwise_decomp rest h.2
    have hall : ∀ o ∈ rest, o.ann = true ∧ i < o.idx := by
      intro o ho
      have := h.1 o ho
      obtain ⟨oa, oi⟩ := o
      cases oa
      · simp [Op.lt] at this
      · simpa [Op.lt] using this
    have hc0 : cres rest = [] := by
      simp only [cres, List.map_eq_nil_iff, List.filter_eq_nil_iff]
      intro o ho
      simp [(hall o ho).1]
    -- the head is an annihilator: `filter` drops it by computation
    have hc : cres (⟨true, i⟩ :: rest) = [] := hc0
    have ha : anns (⟨true, i⟩ :: rest) = i :: anns rest := by simp [anns]
    rw [hc, ha]
    refine ⟨?_, List.Pairwise.nil, ?_⟩
    · rw [hc0] at h1
      simpa using h1
    · refine List.Pairwise.cons ?_ h3
      intro j hj
      simp only [anns, List.mem_map, List.mem_filter] at hj
      obtain ⟨o, ⟨ho, _⟩, rfl⟩ := hj
      exact (hall o ho).2

theorem act_kind_some (a : Bool) : ∀ (l : List Nat) (s s' : Nat) (neg : Bool),
    actMono (l.map (Op.mk a)) s = some (s', neg) →
    (∀ i ∈ l, s.testBit i = a) ∧ ∀ j, s'.testBit j = (s.testBit j != decide (j ∈ l))
  | [], s, s', neg, h => by
    cases h
    simp
  | x :: l, s, s', neg, h => by
    obtain ⟨s1, n1, n2, h1, h2⟩ := actMono_cons_some h
    obtain ⟨ih1, ih2⟩ := act_kind_some a l s s1 n1 h1
    obtain ⟨h3, rfl⟩ := actOp_some h2
    -- mode `x` has occupation `a` after `l` has acted, so `x ∉ l` and it had occupation `a` before
    have hx : x ∉ l := fun hm => by
      have := ih2 x
      rw [← h3, ih1 x hm] at this
      simp [hm] at this
    have hsx : s.testBit x = a := by
      have := ih2 x
      simp only [hx, decide_false, Bool.bne_false] at this
      rw [← this]; exact h3.symm
    refine ⟨fun i hi => ?_, fun j => ?_⟩
    · rcases List.mem_cons.1 hi with rfl | hi
      · exact hsx
      · exact ih1 i hi
    · rw [testBit_flipBit, ih2]
      by_cases hj : x = j
      · subst hj; simp [hx]
      · simp [hj, Ne.symm hj]

theorem act_kind_of (a : Bool) : ∀ (l : List Nat) (s : Nat), l.Nodup → (∀ i ∈ l, s.testBit i = a) →
    ∃ s' neg, actMono (l.map (Op.mk a)) s = some (s', neg)
  | [], s, _, _ => ⟨s, false, rfl⟩
  | x :: l, s, hnd, hs => by
    rw [List.nodup_cons] at hnd
    obtain ⟨s1, n1, h1⟩ := act_kind_of a l s hnd.2 fun i hi => hs i (List.mem_cons_of_mem _ hi)
    have h2 := (act_kind_some a l s s1 n1 h1).2 x
    have h3 : (Op.mk a x).ann = s1.testBit (Op.mk a x).idx := by
      simp [h2, hs x List.mem_cons_self, hnd.1]
    exact ⟨_, _, actMono_cons_of_some h1 (actOp_of h3)⟩

theorem act_normal_some (cs as : List Nat) (s s' : Nat) (neg : Bool)
    (h : actMono (cs.map (Op.mk false) ++ as.map (Op.mk true)) s = some (s', neg)) :
    (∀ i ∈ as, s.testBit i = true) ∧
      ∀ j, s'.testBit j = ((s.testBit j != decide (j ∈ as)) != decide (j ∈ cs)) := by
  obtain ⟨s1, n1, n2, h1, h2⟩ := actMono_append_some _ _ _ _ _ h
  obtain ⟨ha1, ha2⟩ := act_kind_some true as s s1 n1 h1
  obtain ⟨_, hc2⟩ := act_kind_some false cs s1 s' n2 h2
  exact ⟨ha1, fun j => by rw [hc2, ha2]⟩

theorem act_normal_of (cs as : List Nat) (s : Nat) (hcs : cs.Nodup) (has : as.Nodup)
    (h1 : ∀ i ∈ as, s.testBit i = true) (h2 : ∀ i ∈ cs, s.testBit i = true → i ∈ as) :
    ∃ s' neg, actMono (cs.map (Op.mk false) ++ as.map (Op.mk true)) s = some (s', neg) := by
  obtain ⟨s1, n1, ha⟩ := act_kind_of true as s has h1
  have hb := (act_kind_some true as s s1 n1 ha).2
  obtain ⟨s2, n2, hc⟩ := act_kind_of false cs s1 hcs (by
    intro i hi
    rw [hb]
    by_cases hs : s.testBit i = true
    · simp [hs, h2 i hi hs]
    · have hm : i ∉ as := fun hm => hs (h1 i hm)
      simp [hs, hm])
  obtain ⟨neg, hd⟩ := actMono_append_of_some _ _ _ _ _ _ _ ha hc
  exact ⟨s2, neg, hd⟩

def maskOf : List Nat → Nat
  | [] => 0
  | i :: l => maskOf l ||| 2 ^ i

theorem testBit_maskOf (l : List Nat) (j : Nat) : (maskOf l).testBit j = decide (j ∈ l) := by
  induction l with
  | nil => simp [maskOf]
  | cons i l ih =>
    simp only [maskOf, Nat.testBit_or, ih, Nat.testBit_two_pow, List.mem_cons]
    by_cases h : i = j
    · simp [h]
    · have h' : ¬ j = i := fun e => h e.symm
      simp [h, h']

section
variable {K : Type} [CommRing K]

theorem normal_diag (m : Mono) (hm : NormalMono m) :
    ∃ b, (jwRep K).mono m (Finsupp.single (maskOf (anns m)) 1) =
      Finsupp.single (maskOf (cres m)) (sgn K b) := by
  obtain ⟨hd, hcs, has⟩ := pairwise_decomp m (normalMono_pairwise m hm)
  have ncs : (cres m).Nodup := hcs.nodup
  have nas : (anns m).Nodup := has.nodup
  obtain ⟨s', neg, h⟩ := act_normal_of (cres m) (anns m) (maskOf (anns m)) ncs nas
    (fun i hi => by simp [testBit_maskOf, hi])
    (fun i _ hi => by simpa [testBit_maskOf] using hi)
  have hs' : s' = maskOf (cres m) := by
    apply Nat.eq_of_testBit_eq
    intro j
    rw [(act_normal_some _ _ _ _ _ h).2 j, testBit_maskOf, testBit_maskOf]
    by_cases hj : j ∈ anns m <;> simp [hj]
  rw [← hd] at h
  exact ⟨neg, by rw [amp_some h, hs']⟩

theorem normal_offdiag (m m₀ : Mono) (hm : NormalMono m) (hm₀ : NormalMono m₀)
    (hlen : (anns m₀).length ≤ (anns m).length) (hne : m ≠ m₀) :
    ((jwRep K).mono m (Finsupp.single (maskOf (anns m₀)) 1)) (maskOf (cres m₀)) = 0 := by
  rw [jw_mono_single]
  rcases h : actMono m (maskOf (anns m₀)) with _ | ⟨s', neg⟩
  · rfl
  · rw [Finsupp.single_apply, if_neg]
    intro hs'
    apply hne
    obtain ⟨hd, hcs, has⟩ := pairwise_decomp m (normalMono_pairwise m hm)
    obtain ⟨hd₀, hcs₀, has₀⟩ := pairwise_decomp m₀ (normalMono_pairwise m₀ hm₀)
    rw [hd] at h
    obtain ⟨h1, h2⟩ := act_normal_some _ _ _ _ _ h
    have nas : (anns m).Nodup := has.nodup
    have hsub : anns m ⊆ anns m₀ := by
      intro i hi
      simpa [testBit_maskOf] using h1 i hi
    have hperm : (anns m).Perm (anns m₀) :=
      (List.subperm_of_subset nas hsub).perm_of_length_le hlen
    have ha : anns m = anns m₀ :=
      has.eq_of_mem_iff has₀ (fun j => hperm.mem_iff)
    have hc : cres m = cres m₀ := by
      refine hcs.eq_of_mem_iff hcs₀ (fun j => ?_)
      have := h2 j
      rw [hs', testBit_maskOf, testBit_maskOf, ha] at this
      by_cases hj : j ∈ anns m₀ <;> simpa [hj] using this.symm
    rw [hd, hd₀, ha, hc]

/-- LINEAR INDEPENDENCE of the Jordan-Wigner images of the normal monomials.  Induction on the number
of annihilators of `m₀`: probe the combination with the matrix element ⟨cres m₀| · |anns m₀⟩; monomials
with fewer annihilators have coefficient 0 by the induction hypothesis, those with at least as many
contribute nothing by `normal_offdiag`, and `m₀` itself contributes `± l m₀` (`normal_diag`). -/
theorem jw_lincomb_zero (l : Mono →₀ K) (hn : ∀ m ∈ l.support, NormalMono m)
    (h0 : (l.sum fun m c => c • (jwRep K).mono m) = 0) : l = 0 := by
  have key : ∀ s t : Nat,
      (∑ m ∈ l.support, l m * ((jwRep K).mono m (Finsupp.single s 1)) t) = 0 := by
    intro s t
    have := congrArg (fun f : Module.End K (Nat →₀ K) => f (Finsupp.single s 1) t) h0
    simpa [Finsupp.sum, LinearMap.sum_apply, Finsupp.finsetSum_apply] using this
  have main : ∀ n, ∀ m, (anns m).length = n → l m = 0 := by
    intro n
    induction n using Nat.strong_induction_on with
    | _ n ih =>
      intro m₀ hlen
      by_contra hne
      have hmem : m₀ ∈ l.support := Finsupp.mem_support_iff.2 hne
      have hn₀ := hn m₀ hmem
      obtain ⟨b, hb⟩ := normal_diag (K := K) m₀ hn₀
      have hk := key (maskOf (anns m₀)) (maskOf (cres m₀))
      rw [Finset.sum_eq_single m₀ (fun m hm hmne => by
          by_cases hlt : (anns m).length < n
          · exact mul_eq_zero_of_left (ih _ hlt m rfl) _
          · rw [normal_offdiag m m₀ (hn m hm) hn₀ (by omega) hmne, mul_zero])
        (fun h => absurd hmem h), hb, Finsupp.single_eq_same] at hk
      apply hne
      calc l m₀ = l m₀ * sgn K b * sgn K b := by rw [mul_assoc, sgn_mul_self, mul_one]
        _ = 0 := by rw [hk, zero_mul]
  ext m
  exact main _ m rfl

noncomputable def toF (p : Poly K) : Mono →₀ K := (p.map fun mc => Finsupp.single mc.1 mc.2).sum

@[simp] theorem toF_nil : toF ([] : Poly K) = 0 := rfl

@[simp] theorem toF_cons (mc : Mono × K) (p : Poly K) :
    toF (mc :: p) = Finsupp.single mc.1 mc.2 + toF p := by
  simp [toF]

theorem toF_sum {M : Type} [AddCommGroup M] [Module K M] (f : Mono → M) (p : Poly K) :
    ((toF p).sum fun m c => c • f m) = (p.map fun mc => mc.2 • f mc.1).sum := by
  induction p with
  | nil => simp
  | cons mc p ih =>
    rw [toF_cons, Finsupp.sum_add_index' (by simp) (by intros; simp [add_smul]),
      Finsupp.sum_single_index (by simp), ih, List.map_cons, List.sum_cons]

/-- (for a variable family `f`: with `(jwRep K).mono` in its place every rewrite pays for the
instances of `Module.End K (ℕ →₀ K)`) -/
theorem toF_sub_sum {M : Type} [AddCommGroup M] [Module K M] (f : Mono → M) (p q : Poly K) :
    ((toF p - toF q).sum fun m c => c • f m) =
      (p.map fun mc => mc.2 • f mc.1).sum - (q.map fun mc => mc.2 • f mc.1).sum := by
  rw [Finsupp.sum_sub_index (h := fun m c => c • f m) (fun _ _ _ => sub_smul _ _ _), toF_sum,
    toF_sum]

theorem toF_apply_of_not_mem (p : Poly K) (m : Mono) (h : m ∉ p.map (·.1)) : toF p m = 0 := by
  induction p with
  | nil => simp
  | cons mc p ih =>
    simp only [List.map_cons, List.mem_cons, not_or] at h
    rw [toF_cons, Finsupp.add_apply, ih h.2, Finsupp.single_apply, if_neg (Ne.symm h.1), add_zero]

theorem toF_apply_of_mem (p : Poly K) (hnd : (p.map (·.1)).Nodup) (mc : Mono × K) (h : mc ∈ p) :
    toF p mc.1 = mc.2 := by
  induction p with
  | nil => simp at h
  | cons x p ih =>
    rw [List.map_cons, List.nodup_cons] at hnd
    rw [toF_cons, Finsupp.add_apply]
    rcases List.mem_cons.1 h with rfl | h
    · rw [toF_apply_of_not_mem p _ hnd.1, Finsupp.single_eq_same, add_zero]
    · have hne : x.1 ≠ mc.1 := by
        intro e
        exact hnd.1 (e ▸ List.mem_map_of_mem h)
      rw [ih hnd.2 h, Finsupp.single_apply, if_neg hne, zero_add]

theorem toF_support_normal (p : Poly K) (hn : NormalPoly p) (m : Mono) (h : toF p m ≠ 0) :
    NormalMono m := by
  by_cases hm : m ∈ p.map (·.1)
  · obtain ⟨mc, hmc, rfl⟩ := List.mem_map.1 hm
    exact hn mc hmc
  · exact absurd (toF_apply_of_not_mem p m hm) h

end

section
variable {K : Type} [CommRing K] [DecidableEq K]

/-- the keys are strictly increasing for the order of `std::map<monomial_t, _>` -/
def KeysSorted (p : Poly K) : Prop := (p.map (·.1)).Pairwise (fun a b => monoLt a b = true)

omit [CommRing K] [DecidableEq K] in
theorem KeysSorted.nodup {p : Poly K} (h : KeysSorted p) : (p.map (·.1)).Nodup :=
  List.Pairwise.imp (fun hab => monoLt_ne _ _ hab) h

omit [DecidableEq K] in
theorem jw_normal_independent [Nontrivial K] (p : Poly K) (hs : KeysSorted p) (hn : NormalPoly p)
    (h0 : (jwRep K).poly p = 0) : ∀ mc ∈ p, mc.2 = 0 := by
  have hl := jw_lincomb_zero (toF p)
    (fun m hm => toF_support_normal p hn m (Finsupp.mem_support_iff.1 hm))
    ((toF_sum (jwRep K).mono p).trans h0)
  intro mc hmc
  rw [← toF_apply_of_mem p hs.nodup mc hmc, hl]
  rfl

/-- An assumption on the inputs of the equality test: no theorem shows that `insertAdd` / `add` / `mul`
produce canonical polynomials (only `NormalPoly` is preserved, `Spec/NormalizeTotal.lean`). -/
def Canonical (p : Poly K) : Prop := KeysSorted p ∧ NormalPoly p ∧ ∀ mc ∈ p, mc.2 ≠ 0

omit [DecidableEq K] in
theorem Canonical.mem_keys_iff {p : Poly K} (hp : Canonical p) (m : Mono) :
    m ∈ p.map (·.1) ↔ toF p m ≠ 0 := by
  constructor
  · intro hm
    obtain ⟨mc, hmc, rfl⟩ := List.mem_map.1 hm
    rw [toF_apply_of_mem p hp.1.nodup mc hmc]
    exact hp.2.2 mc hmc
  · intro h
    by_contra hm
    exact h (toF_apply_of_not_mem p m hm)

omit [DecidableEq K] in
theorem Canonical.eq_map_toF {p : Poly K} (hp : Canonical p) :
    p = (p.map (·.1)).map (fun m => (m, toF p m)) := by
  rw [List.map_map]
  conv_lhs => rw [← List.map_id p]
  apply List.map_congr_left
  intro mc hmc
  simp only [id, Function.comp, toF_apply_of_mem p hp.1.nodup mc hmc]

omit [DecidableEq K] in
theorem Canonical.eq_of_toF_eq {p q : Poly K} (hp : Canonical p) (hq : Canonical q)
    (h : toF p = toF q) : p = q := by
  have hk : p.map (·.1) = q.map (·.1) := by
    refine List.Perm.eq_of_pairwise (le := fun a b => monoLt a b = true) ?_ hp.1 hq.1 ?_
    · intro a b _ _ hab hba
      rw [monoLt_asymm a b hab] at hba
      cases hba
    · refine (List.perm_ext_iff_of_nodup hp.1.nodup hq.1.nodup).2 (fun m => ?_)
      rw [hp.mem_keys_iff, hq.mem_keys_iff, h]
  rw [hp.eq_map_toF, hq.eq_map_toF, hk, h]

omit [DecidableEq K] in
theorem jw_poly_injective (p q : Poly K) (hp : Canonical p) (hq : Canonical q)
    (h : (jwRep K).poly p = (jwRep K).poly q) : p = q := by
  apply Canonical.eq_of_toF_eq hp hq
  rw [← sub_eq_zero]
  apply jw_lincomb_zero
  · intro m hm
    have hm' : toF p m - toF q m ≠ 0 := Finsupp.mem_support_iff.1 hm
    by_cases h1 : toF p m = 0
    · refine toF_support_normal q hq.2.1 m (fun h2 => hm' ?_)
      rw [h1, h2, sub_zero]
    · exact toF_support_normal p hp.2.1 m h1
  · exact (toF_sub_sum (jwRep K).mono p q).trans (sub_eq_zero.mpr h)

theorem eqCoded_iff_sem (p q : Poly K) (hp : Canonical p) (hq : Canonical q) :
    Poly.eqCoded true p q = some true ↔ (jwRep K).poly p = (jwRep K).poly q := by
  exact (eqCoded_true_iff p q).trans ⟨congrArg _, jw_poly_injective p q hp hq⟩

end

end Pomerol.Spec
