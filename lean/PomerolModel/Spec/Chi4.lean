/-
  Lehmann representation of the two-particle Green's function (C02) and its first exchange
  symmetry (C13).

  χ_{ijkl}(ω₁,ω₂;ω₃) = ∫∫∫_{[0,β]³} ⟨T c_i(τ₁) c_j(τ₂) c†_k(τ₃) c†_l(0)⟩ e^{iω₁τ₁ + iω₂τ₂ − iω₃τ₃}
  with the time-ordered product over the cube formalised as the signed sum over the six ordered
  simplices.  In the eigenbasis the correlator is a sum over world lines (closed paths through four
  eigenstates) of products of three exponentials, so one ordered simplex is, world line by world line, the
  integral of `Spec/Simplex.lean` (`ordered_lehmann`).
-/
import PomerolModel.Spec.Lehmann
import PomerolModel.Spec.Simplex
import Mathlib.Algebra.BigOperators.Fin
import Mathlib.Data.Fintype.BigOperators

namespace Pomerol.Spec
open Matrix Complex

variable {ι : Type} [Fintype ι] [DecidableEq ι]

set_option linter.unusedSectionVars false

/-- Heisenberg evolution in imaginary time, eigenbasis -/
noncomputable def EigenData.evol (d : EigenData ι) (A : Matrix ι ι ℂ) (τ : ℝ) : Matrix ι ι ℂ :=
  NormedSpace.exp ((τ : ℂ) • d.H) * A * NormedSpace.exp ((-(τ : ℂ)) • d.H)

/-- ⟨A(s₁) B(s₂) C(s₃) X(0)⟩ -/
noncomputable def EigenData.corr4 (d : EigenData ι) (A B Cc X : Matrix ι ι ℂ) (s1 s2 s3 : ℝ) : ℂ :=
  (d.ρ * d.evol A s1 * d.evol B s2 * d.evol Cc s3 * X).trace

theorem evol_apply (d : EigenData ι) (A : Matrix ι ι ℂ) (τ : ℝ) (n m : ι) :
    d.evol A τ n m = Complex.exp ((τ : ℂ) * ((d.E n - d.E m : ℝ) : ℂ)) * A n m := by
  unfold EigenData.evol
  rw [exp_smul_H, exp_smul_H]
  simp only [mul_diagonal, diagonal_mul]
  have : Complex.exp ((τ : ℂ) * ((d.E n - d.E m : ℝ) : ℂ))
      = Complex.exp ((τ : ℂ) * (d.E n : ℂ)) * Complex.exp (-(τ : ℂ) * (d.E m : ℂ)) := by
    rw [← Complex.exp_add]; congr 1; push_cast; ring
  rw [this]; ring

theorem trace_diag_mul4 (w : ι → ℂ) (M1 M2 M3 X : Matrix ι ι ℂ) :
    (diagonal w * M1 * M2 * M3 * X).trace
      = ∑ n1, ∑ n2, ∑ n3, ∑ n4, w n1 * M1 n1 n2 * M2 n2 n3 * M3 n3 n4 * X n4 n1 := by
  have h : diagonal w * M1 * M2 * M3 * X = diagonal w * (M1 * (M2 * (M3 * X))) := by
    simp only [Matrix.mul_assoc]
  rw [h, Matrix.trace]
  simp only [diag_apply, diagonal_mul]
  refine Finset.sum_congr rfl fun n1 _ => ?_
  rw [Matrix.mul_apply, Finset.mul_sum]
  refine Finset.sum_congr rfl fun n2 _ => ?_
  rw [Matrix.mul_apply, Finset.mul_sum, Finset.mul_sum]
  refine Finset.sum_congr rfl fun n3 _ => ?_
  rw [Matrix.mul_apply, Finset.mul_sum, Finset.mul_sum, Finset.mul_sum]
  refine Finset.sum_congr rfl fun n4 _ => ?_
  ring

theorem corr4_eq_sum (d : EigenData ι) (A B Cc X : Matrix ι ι ℂ) (s1 s2 s3 : ℝ) :
    d.corr4 A B Cc X s1 s2 s3 = ∑ n1, ∑ n2, ∑ n3, ∑ n4,
      (d.w n1 : ℂ) * A n1 n2 * B n2 n3 * Cc n3 n4 * X n4 n1 *
      Complex.exp ((s1:ℂ) * ((d.E n1 - d.E n2 : ℝ):ℂ) + (s2:ℂ) * ((d.E n2 - d.E n3 : ℝ):ℂ)
        + (s3:ℂ) * ((d.E n3 - d.E n4 : ℝ):ℂ)) := by
  unfold EigenData.corr4 EigenData.ρ
  rw [trace_diag_mul4]
  refine Finset.sum_congr rfl fun n1 _ => Finset.sum_congr rfl fun n2 _ =>
    Finset.sum_congr rfl fun n3 _ => Finset.sum_congr rfl fun n4 _ => ?_
  rw [evol_apply, evol_apply, evol_apply, Complex.exp_add, Complex.exp_add]
  ring

theorem sum4_eq_sum_prod {M : Type} [AddCommMonoid M] (f : ι → ι → ι → ι → M) :
    ∑ n1, ∑ n2, ∑ n3, ∑ n4, f n1 n2 n3 n4 = ∑ p : ι × ι × ι × ι, f p.1 p.2.1 p.2.2.1 p.2.2.2 := by
  simp only [Fintype.sum_prod_type]

/-- the contribution of one time ordering s₁ > s₂ > s₃ > 0 with frequencies (za, zb, zc) attached
to (A, B, C) -/
noncomputable def EigenData.orderedIntegral (d : EigenData ι) (A B Cc X : Matrix ι ι ℂ)
    (za zb zc : ℂ) : ℂ :=
  ∫ s1 in (0:ℝ)..d.β, ∫ s2 in (0:ℝ)..s1, ∫ s3 in (0:ℝ)..s2,
    d.corr4 A B Cc X s1 s2 s3 * Complex.exp (za * (s1:ℂ) + zb * (s2:ℂ) + zc * (s3:ℂ))

/-- what the library accumulates for one ordering ("world line" sum over four eigenstates of the
multi-term) -/
noncomputable def EigenData.orderedLehmann (d : EigenData ι) (A B Cc X : Matrix ι ι ℂ)
    (za zb zc : ℂ) : ℂ :=
  ∑ n1, ∑ n2, ∑ n3, ∑ n4, A n1 n2 * B n2 n3 * Cc n3 n4 * X n4 n1 *
    multiTerm d.β za zb zc (d.E n2 - d.E n1) (d.E n3 - d.E n2) (d.E n4 - d.E n3)
      (d.w n1) (d.w n2) (d.w n3) (d.w n4)

theorem tripleIntegral_sum {κ : Type} (s : Finset κ) (c a1 a2 a3 : κ → ℂ) (β : ℝ) :
    (∫ s1 in (0:ℝ)..β, ∫ s2 in (0:ℝ)..s1, ∫ s3 in (0:ℝ)..s2,
        ∑ p ∈ s, c p * (Complex.exp (a1 p * (s1:ℂ)) *
          (Complex.exp (a2 p * (s2:ℂ)) * Complex.exp (a3 p * (s3:ℂ)))))
      = ∑ p ∈ s, c p * simplexIntegral β (a1 p) (a2 p) (a3 p) := by
  -- from the inside: each integral sees one exponential (times the integral before it); what stands
  -- in front of it is constant.  Innermost `expInt`, then `expInt2`, then the simplex integral.
  simp_rw [← mul_assoc, integral_sum_const_mul s _ (fun p (τ : ℝ) => Complex.exp (a3 p * (τ:ℂ)))
    (fun p => by fun_prop), ← expInt.eq_1]
  simp_rw [mul_assoc _ (Complex.exp (a2 _ * _)), integral_sum_const_mul s _
    (fun p (τ : ℝ) => Complex.exp (a2 p * (τ:ℂ)) * expInt (a3 p) τ)
    (fun p => Continuous.mul (by fun_prop) (expInt_continuous _)), ← expInt2.eq_1]
  simp_rw [mul_assoc _ (Complex.exp (a1 _ * _)), integral_sum_const_mul s c
    (fun p (τ : ℝ) => Complex.exp (a1 p * (τ:ℂ)) * expInt2 (a2 p) (a3 p) τ)
    (fun p => Continuous.mul (by fun_prop) (expInt2_continuous _ _))]
  rfl

/-- one ordered simplex, any fermionic frequencies (e^{βz} = −1), any spectrum incl.
all resonant cases -/
theorem ordered_lehmann (d : EigenData ι) (A B Cc X : Matrix ι ι ℂ) (za zb zc : ℂ)
    (ha : Complex.exp ((d.β:ℂ) * za) = -1) (hb : Complex.exp ((d.β:ℂ) * zb) = -1)
    (hc : Complex.exp ((d.β:ℂ) * zc) = -1) :
    d.orderedIntegral A B Cc X za zb zc = d.orderedLehmann A B Cc X za zb zc := by
  unfold EigenData.orderedIntegral EigenData.orderedLehmann
  -- the integrand as a single finite sum over world lines p = (n1, n2, n3, n4)
  have hI : ∀ s1 s2 s3 : ℝ,
      d.corr4 A B Cc X s1 s2 s3 * Complex.exp (za * (s1:ℂ) + zb * (s2:ℂ) + zc * (s3:ℂ))
      = ∑ p : ι × ι × ι × ι,
          ((d.w p.1 : ℂ) * A p.1 p.2.1 * B p.2.1 p.2.2.1 * Cc p.2.2.1 p.2.2.2 * X p.2.2.2 p.1) *
          (Complex.exp ((za - ((d.E p.2.1 - d.E p.1 : ℝ) : ℂ)) * (s1:ℂ)) *
            (Complex.exp ((zb - ((d.E p.2.2.1 - d.E p.2.1 : ℝ) : ℂ)) * (s2:ℂ)) *
              Complex.exp ((zc - ((d.E p.2.2.2 - d.E p.2.2.1 : ℝ) : ℂ)) * (s3:ℂ)))) := by
    intro s1 s2 s3
    rw [corr4_eq_sum, sum4_eq_sum_prod, Finset.sum_mul]
    refine Finset.sum_congr rfl fun p _ => ?_
    rw [mul_assoc, ← Complex.exp_add, ← Complex.exp_add, ← Complex.exp_add]
    congr 2
    push_cast
    ring
  simp_rw [hI]
  rw [tripleIntegral_sum, sum4_eq_sum_prod]
  refine Finset.sum_congr rfl fun p _ => ?_
  rw [← simplex_closed_form d.β d.hβ za zb zc ha hb hc _ _ _ _ _ _ _
    (w_ratio' d p.1 p.2.1) (w_ratio' d p.2.1 p.2.2.1) (w_ratio' d p.2.2.1 p.2.2.2)]
  ring

/-- the six orderings of three objects: position → which object, with the sign of the permutation
(this is the library's table `permutations3`) -/
def perms3 : List ((Fin 3 → Fin 3) × ℤ) :=
  [ (![0,1,2], 1), (![0,2,1], -1), (![1,0,2], -1), (![1,2,0], 1), (![2,0,1], 1), (![2,1,0], -1) ]

/-- χ as the signed sum over the six time orderings; `O 0 = c_i`, `O 1 = c_j`, `O 2 = c†_k`,
`X = c†_l`, `z 0 = iω₁`, `z 1 = iω₂`, `z 2 = −iω₃`.  Only three times are integrated, the fourth
operator stands at time 0: time-translation invariance of the correlator has been used already. -/
noncomputable def EigenData.chiDef (d : EigenData ι) (O : Fin 3 → Matrix ι ι ℂ) (X : Matrix ι ι ℂ)
    (z : Fin 3 → ℂ) : ℂ :=
  (perms3.map fun p => (p.2 : ℂ) * d.orderedIntegral (O (p.1 0)) (O (p.1 1)) (O (p.1 2)) X
    (z (p.1 0)) (z (p.1 1)) (z (p.1 2))).sum

noncomputable def EigenData.chiLehmann (d : EigenData ι) (O : Fin 3 → Matrix ι ι ℂ)
    (X : Matrix ι ι ℂ) (z : Fin 3 → ℂ) : ℂ :=
  (perms3.map fun p => (p.2 : ℂ) * d.orderedLehmann (O (p.1 0)) (O (p.1 1)) (O (p.1 2)) X
    (z (p.1 0)) (z (p.1 1)) (z (p.1 2))).sum

/-- C02: definition = what the library evaluates, for all spectra, matrices and
fermionic triples -/
theorem chi_lehmann (d : EigenData ι) (O : Fin 3 → Matrix ι ι ℂ) (X : Matrix ι ι ℂ)
    (z : Fin 3 → ℂ) (hz : ∀ k, Complex.exp ((d.β:ℂ) * z k) = -1) :
    d.chiDef O X z = d.chiLehmann O X z := by
  unfold EigenData.chiDef EigenData.chiLehmann
  congr 1
  apply List.map_congr_left
  intro p _
  rw [ordered_lehmann d _ _ _ X _ _ _ (hz _) (hz _) (hz _)]

theorem matsubara_exp (d : EigenData ι) (k1 k2 k3 : ℤ) (m : Fin 3) :
    Complex.exp ((d.β:ℂ) *
      (![I * (d.ω k1 : ℂ), I * (d.ω k2 : ℂ), -(I * (d.ω k3 : ℂ))] : Fin 3 → ℂ) m) = -1 := by
  fin_cases m
  · exact exp_beta_I_omega d k1
  · exact exp_beta_I_omega d k2
  · show Complex.exp ((d.β:ℂ) * (-(I * (d.ω k3 : ℂ)))) = -1
    rw [mul_neg, Complex.exp_neg, exp_beta_I_omega]
    norm_num

theorem chi_lehmann_matsubara (d : EigenData ι) (O : Fin 3 → Matrix ι ι ℂ) (X : Matrix ι ι ℂ)
    (k1 k2 k3 : ℤ) :
    d.chiDef O X ![I * (d.ω k1 : ℂ), I * (d.ω k2 : ℂ), -(I * (d.ω k3 : ℂ))] =
    d.chiLehmann O X ![I * (d.ω k1 : ℂ), I * (d.ω k2 : ℂ), -(I * (d.ω k3 : ℂ))] :=
  chi_lehmann d O X _ (matsubara_exp d k1 k2 k3)

theorem perms3_sum_eq (F : (Fin 3 → Fin 3) → ℂ) :
    (perms3.map fun p => (p.2 : ℂ) * F p.1).sum
      = F ![0,1,2] - F ![0,2,1] - F ![1,0,2] + F ![1,2,0] + F ![2,0,1] - F ![2,1,0] := by
  simp only [perms3, List.map_cons, List.map_nil, List.sum_cons, List.sum_nil]
  push_cast
  ring

theorem chiDef_expand (d : EigenData ι) (O : Fin 3 → Matrix ι ι ℂ) (X : Matrix ι ι ℂ)
    (z : Fin 3 → ℂ) :
    d.chiDef O X z =
      d.orderedIntegral (O 0) (O 1) (O 2) X (z 0) (z 1) (z 2)
      - d.orderedIntegral (O 0) (O 2) (O 1) X (z 0) (z 2) (z 1)
      - d.orderedIntegral (O 1) (O 0) (O 2) X (z 1) (z 0) (z 2)
      + d.orderedIntegral (O 1) (O 2) (O 0) X (z 1) (z 2) (z 0)
      + d.orderedIntegral (O 2) (O 0) (O 1) X (z 2) (z 0) (z 1)
      - d.orderedIntegral (O 2) (O 1) (O 0) X (z 2) (z 1) (z 0) :=
  perms3_sum_eq fun σ =>
    d.orderedIntegral (O (σ 0)) (O (σ 1)) (O (σ 2)) X (z (σ 0)) (z (σ 1)) (z (σ 2))

theorem chiLehmann_expand (d : EigenData ι) (O : Fin 3 → Matrix ι ι ℂ) (X : Matrix ι ι ℂ)
    (z : Fin 3 → ℂ) :
    d.chiLehmann O X z =
      d.orderedLehmann (O 0) (O 1) (O 2) X (z 0) (z 1) (z 2)
      - d.orderedLehmann (O 0) (O 2) (O 1) X (z 0) (z 2) (z 1)
      - d.orderedLehmann (O 1) (O 0) (O 2) X (z 1) (z 0) (z 2)
      + d.orderedLehmann (O 1) (O 2) (O 0) X (z 1) (z 2) (z 0)
      + d.orderedLehmann (O 2) (O 0) (O 1) X (z 2) (z 0) (z 1)
      - d.orderedLehmann (O 2) (O 1) (O 0) X (z 2) (z 1) (z 0) :=
  perms3_sum_eq fun σ =>
    d.orderedLehmann (O (σ 0)) (O (σ 1)) (O (σ 2)) X (z (σ 0)) (z (σ 1)) (z (σ 2))

/-- first exchange symmetry (C13): swapping the two annihilators together with their frequencies
flips the sign: χ_{jikl}(ω₂,ω₁;ω₃) = −χ_{ijkl}(ω₁,ω₂;ω₃) — both for the definition and for the
Lehmann form; it is a relabelling of the six orderings -/
theorem chiLehmann_swap01 (d : EigenData ι) (O : Fin 3 → Matrix ι ι ℂ) (X : Matrix ι ι ℂ)
    (z : Fin 3 → ℂ) :
    d.chiLehmann ![O 1, O 0, O 2] X ![z 1, z 0, z 2] = - d.chiLehmann O X z := by
  rw [chiLehmann_expand, chiLehmann_expand]
  simp only [Matrix.cons_val_zero, Matrix.cons_val_one, Matrix.cons_val_two, Matrix.head_cons,
    Matrix.tail_cons]
  ring

theorem chiDef_swap01 (d : EigenData ι) (O : Fin 3 → Matrix ι ι ℂ) (X : Matrix ι ι ℂ)
    (z : Fin 3 → ℂ) :
    d.chiDef ![O 1, O 0, O 2] X ![z 1, z 0, z 2] = - d.chiDef O X z := by
  rw [chiDef_expand, chiDef_expand]
  simp only [Matrix.cons_val_zero, Matrix.cons_val_one, Matrix.cons_val_two, Matrix.head_cons,
    Matrix.tail_cons]
  ring

end Pomerol.Spec
