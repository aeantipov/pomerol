import PomerolModel.Scalar
import PomerolModel.Model.Averages
import PomerolModel.Model.Chase
import PomerolModel.Model.Chi4Part
import PomerolModel.Model.Chi4Prepare
import PomerolModel.Model.Collect
import PomerolModel.Model.Container4
import PomerolModel.Model.Dispatcher
import PomerolModel.Model.DispatcherDedicated
import PomerolModel.Model.FieldPart
import PomerolModel.Model.GFPart
import PomerolModel.Model.HamSpectrum
import PomerolModel.Model.Index
import PomerolModel.Model.Lattice
import PomerolModel.Model.LatticeSpec
import PomerolModel.Model.Loop
import PomerolModel.Model.MC4
import PomerolModel.Model.Operator
import PomerolModel.Model.Parallel
import PomerolModel.Model.SuscPart
import PomerolModel.Model.Symm
import PomerolModel.Model.TermList
import PomerolModel.Spec.AveragesSpec
import PomerolModel.Spec.BlockBasis
import PomerolModel.Spec.Blocks
import PomerolModel.Spec.Bridge
import PomerolModel.Spec.CAR
import PomerolModel.Spec.CARStarAlgebra
import PomerolModel.Spec.ChaseProps
import PomerolModel.Spec.Chi4
import PomerolModel.Spec.Chi4Exchange
import PomerolModel.Spec.Chi4PrepareSpec
import PomerolModel.Spec.Chi4Refine
import PomerolModel.Spec.CollectProps
import PomerolModel.Spec.DispatcherPool
import PomerolModel.Spec.DispatcherInv
import PomerolModel.Spec.DispatcherDedicatedInv
import PomerolModel.Spec.FieldPartSpec
import PomerolModel.Spec.GFProps
import PomerolModel.Spec.GFRefine
import PomerolModel.Spec.Gibbs
import PomerolModel.Spec.HamSpectrumSpec
import PomerolModel.Spec.IndexBij
import PomerolModel.Spec.IndexInvariance
import PomerolModel.Spec.JW
import PomerolModel.Spec.LatticeProps
import PomerolModel.Spec.ListLemmas
import PomerolModel.Spec.Lehmann
import PomerolModel.Spec.NormalizeSem
import PomerolModel.Spec.NormalizeTotal
import PomerolModel.Spec.OpAlgebra
import PomerolModel.Spec.OpIndependence
import PomerolModel.Spec.OpTotal
import PomerolModel.Spec.Partition
import PomerolModel.Spec.SnapProps
import PomerolModel.Spec.SparseWalk
import PomerolModel.Spec.SumLemmas
import PomerolModel.Spec.PresetSem
import PomerolModel.Spec.Rotation
import PomerolModel.Spec.Simplex
import PomerolModel.Spec.SpinAlgebra
import PomerolModel.Spec.Susc
import PomerolModel.Spec.SuscRefine
import PomerolModel.Spec.SuscTol
import PomerolModel.Spec.SymmSound
import PomerolModel.Spec.TruncBounds
import PomerolModel.Spec.Wick
import PomerolModel.Spec.WickChi4
import PomerolModel.Properties.C01
import PomerolModel.Properties.C01Merge
import PomerolModel.Properties.C02
import PomerolModel.Properties.C02Terms
import PomerolModel.Properties.C03
import PomerolModel.Properties.C04Hamiltonian
import PomerolModel.Properties.C04
import PomerolModel.Properties.C05
import PomerolModel.Properties.C06
import PomerolModel.Properties.C07
import PomerolModel.Properties.C08
import PomerolModel.Properties.C09
import PomerolModel.Properties.C10
import PomerolModel.Properties.C11
import PomerolModel.Properties.C12
import PomerolModel.Properties.C13
import PomerolModel.Properties.C14
import PomerolModel.Properties.C14Merge
import PomerolModel.Properties.C15
import PomerolModel.Properties.C16
import PomerolModel.Properties.C16Dedicated
import PomerolModel.Properties.C17
import PomerolModel.Properties.C18
import PomerolModel.Properties.C19
import PomerolModel.Properties.C20
